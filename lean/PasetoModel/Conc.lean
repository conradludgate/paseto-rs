import PasetoModel.Basic
/-! Shared keys under concurrency (C17).  On the Rust side a key is an owned, immutable value:
    every public operation takes `&Key` (or consumes a clone) and returns a fresh value.  The
    system model: one shared key, several threads each running a list of operations; a step runs
    the next operation of one thread *atomically on the key* (the operations are pure functions of
    the key and their own arguments/randomness).  Failing operations are ordinary results. -/
namespace PM.Conc

/-- an operation: a function of the shared key (arguments and per-call randomness are baked in) -/
abbrev Op (K O : Type) := K → O

structure Sys (K O : Type) where
  key : K
  pending : List (List (Op K O))      -- per thread: operations still to run
  outputs : List (List O)             -- per thread: results so far

/-- thread `i` runs its next operation; no-op if it has none -/
def step {K O} (s : Sys K O) (i : Nat) : Sys K O :=
  match s.pending[i]? with
  | some (op :: rest) =>
    { s with pending := s.pending.set i rest,
             outputs := s.outputs.set i ((s.outputs[i]?.getD []) ++ [op s.key]) }
  | _ => s

def run {K O} (s : Sys K O) (sched : List Nat) : Sys K O := sched.foldl step s

/-- sequential oracle: each thread's results computed alone on the same key -/
def sequential {K O} (key : K) (progs : List (List (Op K O))) : List (List O) :=
  progs.map (fun p => p.map (fun op => op key))

def init {K O} (key : K) (progs : List (List (Op K O))) : Sys K O :=
  { key, pending := progs, outputs := progs.map (fun _ => []) }

/-- invariant of every reachable state: the key is the initial key, and for each thread the results
    so far followed by the results still to come are the sequential results -/
def Inv {K O} (key : K) (progs : List (List (Op K O))) (s : Sys K O) : Prop :=
  s.key = key ∧ s.pending.length = progs.length ∧ s.outputs.length = progs.length ∧
  ∀ i, i < progs.length →
    (s.outputs[i]?.getD []) ++ ((s.pending[i]?.getD []).map (fun op => op key)) =
      (progs[i]?.getD []).map (fun op => op key)

theorem inv_init {K O} (key : K) (progs : List (List (Op K O))) : Inv key progs (init key progs) :=
  ⟨rfl, rfl, by simp [init], fun i hi => by simp [init, hi]⟩

theorem inv_step {K O} (key : K) (progs : List (List (Op K O))) (s : Sys K O) (i : Nat)
    (h : Inv key progs s) : Inv key progs (step s i) := by
  unfold step
  split
  · rename_i op rest hpi
    obtain ⟨hk, hp, ho, hi⟩ := h
    refine ⟨hk, by simp [hp], by simp [ho], fun j hj => ?_⟩
    have hj' := hi j hj
    by_cases hji : i = j
    · -- thread `i` itself: the head of its pending list has moved to the end of its outputs
      subst hji
      rw [hpi] at hj'
      simpa [hp, ho, hj, hk] using hj'
    · simpa [List.getElem?_set_ne hji] using hj'
  · exact h

theorem inv_run {K O} (key : K) (progs : List (List (Op K O))) (sched : List Nat) :
    Inv key progs (run (init key progs) sched) :=
  List.foldlRecOn sched step (inv_init key progs) fun s h i _ => inv_step key progs s i h

/-- a step of thread `i` consumes the head of its own pending list (and nothing if there is none) -/
theorem step_pending_self {K O} (s : Sys K O) (i : Nat) :
    (step s i).pending[i]?.getD [] = (s.pending[i]?.getD []).tail := by
  unfold step
  rcases h : s.pending[i]? with _ | _ | ⟨o, r⟩
  · simp [h]
  · simp [h]
  · simp [List.getElem?_set_self (List.getElem?_eq_some_iff.mp h).1]

/-- scheduling thread `i` `n` times in a row runs its next `n` operations -/
theorem run_replicate_pending {K O} (s : Sys K O) (i n : Nat) :
    (run s (List.replicate n i)).pending[i]?.getD [] = (s.pending[i]?.getD []).drop n := by
  induction n generalizing s with
  | zero => rfl
  | succ n ih =>
    rw [List.replicate_succ, run, List.foldl_cons, ← run, ih, step_pending_self, List.drop_tail]

end PM.Conc
