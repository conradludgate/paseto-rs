import PasetoModel.Features
/-! Bit-sliced evaluation of the feature model: all `2ⁿ` selections at once.
    A *table* is a number whose bit `S` says whether a Boolean function of the selection holds at
    `S`.  Running `closure` and `evalCfg` with one table per feature bit in place of one bit, and
    `&&& ||| ^^^` in place of `&& || !`, treats every selection in one pass of big-number operations,
    which is what the kernel evaluates fast. -/
namespace PM.Feat
open PM.Extracted.Feat

/-- the table of "bit `f` of `S`" over `S < 2ⁿ`: the lower half of the selections repeated in the upper
    half, except for the new feature `n`, which is off in the lower half and on in the upper -/
def varT : Nat → Nat → Nat
  | 0, _ => 0
  | n+1, f => if f = n then (2 ^ 2 ^ n - 1) <<< 2 ^ n else varT n f ||| varT n f <<< 2 ^ n

theorem varT_spec {n f : Nat} (hf : f < n) (S : Nat) :
    (varT n f).testBit S = (decide (S < 2 ^ n) && S.testBit f) := by
  induction n generalizing S with
  | zero => omega
  | succ n ih =>
    rw [varT, Nat.pow_succ, Nat.mul_two]
    rcases Nat.lt_or_ge S (2 ^ n) with hS | hS
    · -- lower half: nothing of the shifted part, and bit `n` of `S` is off
      have := Nat.lt_add_right (2 ^ n) hS
      split
      · simp [*, Nat.testBit_lt_two_pow hS, Nat.not_le.2 hS]
      · simp [*, ih (by omega), Nat.not_le.2 hS]
    · -- upper half, `S = 2ⁿ + S'`: the shifted part at `S'`, and bit `n` of `S` is on
      obtain ⟨S', rfl⟩ := Nat.exists_eq_add_of_le hS
      split
      · simpa [*, Nat.testBit_two_pow_add_eq] using Nat.testBit_lt_two_pow
      · have hf' : f < n := by omega
        simp [ih hf', Nat.testBit_two_pow_add_gt hf', Nat.not_lt.2 hS]

/-- at selection `S` the tables `cols`, one per feature, describe the feature set `acc` -/
def SliceOf (n S : Nat) (cols : List Nat) (acc : Nat) : Prop :=
  cols.length = n ∧ ∀ g, (cols[g]?.getD 0).testBit S = acc.testBit g

theorem sliceOf_init {n S : Nat} (h : S < 2 ^ n) : SliceOf n S ((List.range n).map (varT n)) S := by
  refine ⟨by simp, fun g => ?_⟩
  by_cases hg : g < n
  · simp [hg, varT_spec hg, h]
  · have : S < 2 ^ g := Nat.lt_of_lt_of_le h (Nat.pow_le_pow_right (by omega) (by omega))
    simp [hg, Nat.testBit_lt_two_pow this]

/-- the body of `stepClosure`, bit by bit -/
theorem testBit_edge (acc f g h : Nat) :
    (if acc.testBit f then acc ||| 1 <<< g else acc).testBit h
      = (acc.testBit h || (decide (g = h) && acc.testBit f)) := by
  split <;> simp [Nat.one_shiftLeft, Nat.testBit_two_pow, *]

theorem closure_extensive (edges : List (Nat × Nat)) (n S : Nat) : closure edges n S &&& S = S := by
  -- an edge only sets bits
  suffices h : ∀ i, S.testBit i → (closure edges n S).testBit i from
    Nat.eq_of_testBit_eq fun i => by simpa using h i
  intro i hi
  refine List.foldlRecOn (motive := (Nat.testBit · i)) _ _ hi fun _ h _ _ =>
    List.foldlRecOn (motive := (Nat.testBit · i)) _ _ h fun acc h e _ => ?_
  rw [testBit_edge, h, Bool.true_or]

/-- one implication edge, on tables -/
def stepT (cols : List Nat) (e : Nat × Nat) : List Nat :=
  cols.set e.2 (cols.getD e.2 0 ||| cols.getD e.1 0)

def closureT (edges : List (Nat × Nat)) (n : Nat) (cols : List Nat) : List Nat :=
  (List.range n).foldl (fun acc _ => edges.foldl stepT acc) cols

theorem sliceOf_closure {n S : Nat} {edges : List (Nat × Nat)} (he : ∀ e ∈ edges, e.2 < n)
    {cols : List Nat} {acc : Nat} (h : SliceOf n S cols acc) :
    SliceOf n S (closureT edges n cols) (closure edges n acc) := by
  refine List.foldl_rel h fun _ _ _ _ h => List.foldl_rel h fun e he' cols acc ⟨hl, h⟩ => ?_
  refine ⟨by simp [stepT, hl], fun g => ?_⟩
  show _ = (if acc.testBit e.1 then acc ||| 1 <<< e.2 else acc).testBit g
  rw [testBit_edge]
  simp only [stepT, List.getD_eq_getElem?_getD, List.getElem?_set, hl, he e he', ← h]
  split <;> simp [*]

mutual
def evalT (m : Nat) (cols : List Nat) : Cfg → Nat
  | .feat f => cols.getD f 0
  | .all l => allT m cols l
  | .any l => anyT m cols l
  | .not c => m ^^^ evalT m cols c
  | .tt => m
  | .ff => 0
def allT (m : Nat) (cols : List Nat) : List Cfg → Nat
  | [] => m
  | c :: cs => evalT m cols c &&& allT m cols cs
def anyT (m : Nat) (cols : List Nat) : List Cfg → Nat
  | [] => 0
  | c :: cs => evalT m cols c ||| anyT m cols cs
end

mutual
theorem evalT_spec {n S C : Nat} {cols : List Nat} (hS : S < 2 ^ n) (h : SliceOf n S cols C) :
    ∀ c, (evalT (2 ^ 2 ^ n - 1) cols c).testBit S = evalCfg C c
  | .feat f => by simp [evalT, evalCfg, ← h.2]
  | .all l => by simp [evalT, evalCfg, allT_spec hS h l]
  | .any l => by simp [evalT, evalCfg, anyT_spec hS h l]
  | .not c => by simp [evalT, evalCfg, hS, evalT_spec hS h c]
  | .tt => by simp [evalT, evalCfg, hS]
  | .ff => by simp [evalT, evalCfg]
theorem allT_spec {n S C : Nat} {cols : List Nat} (hS : S < 2 ^ n) (h : SliceOf n S cols C) :
    ∀ l, (allT (2 ^ 2 ^ n - 1) cols l).testBit S = evalAll C l
  | [] => by simp [allT, evalAll, hS]
  | c :: cs => by simp [allT, evalAll, evalT_spec hS h c, allT_spec hS h cs]
theorem anyT_spec {n S C : Nat} {cols : List Nat} (hS : S < 2 ^ n) (h : SliceOf n S cols C) :
    ∀ l, (anyT (2 ^ 2 ^ n - 1) cols l).testBit S = evalAny C l
  | [] => by simp [anyT, evalAny]
  | c :: cs => by simp [anyT, evalAny, evalT_spec hS h c, anyT_spec hS h cs]
end

/-- `consistent`, for all selections at once -/
def consistentT (F : CrateFacts) : Bool :=
  let n := F.nFeatures
  let m := 2 ^ 2 ^ n - 1
  let cols := closureT F.edges n ((List.range n).map (varT n))
  F.edges.all (·.2 < n) &&
    F.refs.all fun r => (m ^^^ evalT m cols r.ctx ||| evalT m cols r.needs) &&& m == m

theorem all_consistent_of_sliced {F : CrateFacts} (h : consistentT F = true) :
    (subsets F.nFeatures).all (consistent F) = true := by
  simp only [consistentT, Bool.and_eq_true, List.all_eq_true, decide_eq_true_eq, beq_iff_eq] at h
  simp only [subsets, consistent, List.all_eq_true, List.mem_range]
  intro S hS r hr
  have hc := sliceOf_closure h.1 (sliceOf_init hS)
  simpa [hS, evalT_spec hS hc] using congrArg (·.testBit S) (h.2 r hr)

/-- `closure` is idempotent, for all selections at once: a second run leaves every table as it is -/
def idempotentT (edges : List (Nat × Nat)) (n : Nat) : Bool :=
  let cols := closureT edges n ((List.range n).map (varT n))
  edges.all (·.2 < n) && closureT edges n cols == cols

theorem closure_idempotent_of_sliced {edges : List (Nat × Nat)} {n S : Nat} (h : idempotentT edges n = true)
    (hS : S < 2 ^ n) : closure edges n (closure edges n S) = closure edges n S := by
  simp only [idempotentT, Bool.and_eq_true, List.all_eq_true, decide_eq_true_eq, beq_iff_eq] at h
  have hc := sliceOf_closure h.1 (sliceOf_init hS)
  have hcc := sliceOf_closure h.1 hc
  rw [h.2] at hcc
  exact Nat.eq_of_testBit_eq fun g => (hcc.2 g).symm.trans (hc.2 g)

end PM.Feat
