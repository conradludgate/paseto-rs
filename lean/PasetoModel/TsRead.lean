import PasetoModel.CivilLemmas
import PasetoModel.JsonLemmas
/-! # Reading the RFC 3339 text back: both year shapes, jiff's whole range -/
namespace PM.Json

/-- the reader for a year below 0: the text after the leading `-` -/
def readTsNeg (t : Bytes) : Int :=
  let y := digitsVal (t.take 6)
  let m := digitsVal ((t.drop 7).take 2)
  let d := digitsVal ((t.drop 10).take 2)
  let hh := digitsVal ((t.drop 13).take 2)
  let mm := digitsVal ((t.drop 16).take 2)
  let ss := digitsVal ((t.drop 19).take 2)
  let frac := readFrac (t.drop 21)
  (daysFromCivil (-(y : Int)) m d * 86400 + ((hh * 3600 + mm * 60 + ss : Nat) : Int)) * 1000000000 + (frac : Int)

/-- the reader for both shapes: a leading `-` selects the six-digit year -/
def readTsAny : Bytes → Int
  | 45 :: r => readTsNeg r
  | t => readTs t

theorem readTsNeg_eq (t : Bytes) : readTsNeg t = readSeq 6 (fun y => -(y : Int)) t := by
  simp only [readTsNeg, readSeq, field, instantOf, List.drop_drop, Nat.reduceAdd]

theorem readTsNeg_fmtTs (ns : Int)
    (hy0 : (civil ((ns.fdiv 1000000000).fdiv 86400)).1 < 0) (hy1 : -1000000 < (civil ((ns.fdiv 1000000000).fdiv 86400)).1) :
    ∃ r, fmtTs ns = 45 :: r ∧ readTsNeg r = ns := by
  have h : (tsFields ns).1.1 < 0 := hy0
  exact ⟨bodyText (pad 6 (-(tsFields ns).1.1).toNat) (tsFields ns), by rw [fmtTs_eq_render, renderFields_eq, if_pos h]; rfl,
    readTsNeg_eq _ ▸ readSeq_bodyText 6 _ (fun y => -(y : Int)) ns (by simp only [tsFields]; omega) (by omega)⟩

theorem readTsAny_of_digit (a : UInt8) (r : Bytes) (h : isDigit a) : readTsAny (a :: r) = readTs (a :: r) := by
  unfold readTsAny
  split
  · rename_i heq
    cases heq
    exact absurd h.1 (by decide)
  · rfl

/-- a four-digit year does not start with `-` -/
theorem readTsAny_bodyText (n : Nat) (f : (Int × Nat × Nat) × Nat × Nat × Nat × Nat) :
    readTsAny (bodyText (pad 4 n) f) = readTs (bodyText (pad 4 n) f) := by
  obtain ⟨a, b, c, d, h⟩ := len4 _ (pad_length 4 n)
  rw [bodyText, h]
  exact readTsAny_of_digit a _ (pad_digits 4 n a (by simp [h]))

/-- the timestamp text reads back to the instant written, for every year −999999 … 9999 (jiff's range is −9999 … 9999) -/
theorem readTsAny_fmtTs (ns : Int)
    (hy0 : -1000000 < (civil ((ns.fdiv 1000000000).fdiv 86400)).1) (hy1 : (civil ((ns.fdiv 1000000000).fdiv 86400)).1 < 10000) :
    readTsAny (fmtTs ns) = ns := by
  by_cases hneg : (tsFields ns).1.1 < 0
  · obtain ⟨r, e1, e2⟩ := readTsNeg_fmtTs ns hneg hy0
    rw [e1]; exact e2
  · have e : fmtTs ns = bodyText (pad 4 (tsFields ns).1.1.toNat) (tsFields ns) := by
      rw [fmtTs_eq_render, renderFields_eq, if_neg hneg]
    rw [e, readTsAny_bodyText, ← e]
    exact readTs_fmtTs ns (Int.not_lt.1 hneg) hy1
end PM.Json
