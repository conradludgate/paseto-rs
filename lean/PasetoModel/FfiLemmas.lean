import PasetoModel.Ffi
/-! Soundness of the ownership checker of `Ffi.lean`: what `Fn.ok = true` *means*.

`run` records every release in `frees` and every violation in `bad`.  These lemmas show that an empty `bad` is not
just the checker's say-so: it implies that no object was released twice (`frees.Nodup`) and that every object still
allocated when the function is left is owned by the returned value. -/
namespace PM.Ffi

/-- the invariant carried through a run: as long as no violation has been recorded, no object was released twice -/
def St.Inv (s : St) : Prop := s.bad = [] → s.frees.Nodup

theorem St.release_inv (s : St) (r : Nat) (h : s.Inv) : (s.release r).Inv := by
  intro hb
  simp only [St.release] at hb ⊢
  split at hb
  · cases hb
  · rename_i hr
    exact List.nodup_cons.mpr ⟨by simpa using hr, h hb⟩

theorem St.free_inv (fuel : Nat) : ∀ (s : St) (r : Nat), s.Inv → (s.free fuel r).Inv := by
  induction fuel with
  | zero => exact fun s r h => h
  | succ f ih => exact fun s r h => List.foldlRecOn _ _ (St.release_inv s r h) fun t ht c _ => ih t c.1 ht

theorem St.dropScope_inv (s : St) (keep : List Nat) (h : s.Inv) : (s.dropScope keep).Inv :=
  List.foldlRecOn _ _ h fun t ht w _ => by
    split
    · exact St.free_inv 8 t w.1 ht
    · exact ht

theorem step_inv (s : St) (borrowed : List Nat) (a : Act) (h : s.Inv) : (step s borrowed a).Inv := by
  cases a with
  | call uses f =>
    -- recording a use never touches `frees`, and can only add to `bad`
    refine List.foldlRecOn _ _ h fun t ht u _ => ?_
    split
    · exact ht
    · exact nofun
  | adopt r d =>
    simp only [step]
    split
    · exact h
    · exact nofun
  | rawFree r => exact St.free_inv 8 s r h
  | dropNow r =>
    simp only [step]
    split
    · exact St.free_inv 8 s r h
    · exact h
  | _ => exact h

theorem runGo_inv (borrowed : List Nat) (failAt : Option Nat) (acts : List Act) (idx : Nat) (s : St) (h : s.Inv) :
    (runGo borrowed failAt acts idx s).1.Inv := by
  induction acts generalizing idx s with
  | nil => exact h
  | cons a rest ih =>
    unfold runGo
    split
    · exact h
    · exact ih _ _ (step_inv s borrowed a h)

theorem finish_bad_nil (f : Fn) (s : St) (ok : Bool) (h : (finish f s ok).bad = []) :
    (s.dropScope (if ok then f.returns else [])).bad = [] ∧
    ∀ r ∈ (finish f s ok).live, ok = true ∧ (f.returns.contains r = true ∨
      (finish f s ok).children.any (fun c => c.1 == r && f.returns.contains c.2) = true) := by
  simp only [finish, List.append_eq_nil_iff, List.map_eq_nil_iff, List.filter_eq_nil_iff] at h
  refine ⟨h.2, fun r hr => ?_⟩
  simpa only [finish, Bool.not_eq_true', Bool.not_eq_false, Bool.and_eq_true, Bool.or_eq_true] using h.1.1.1 r hr

/-- **No double free.**  If a run records no violation, no object was released twice during it. -/
theorem run_no_double_free (f : Fn) (failAt : Option Nat) (h : (run f failAt).bad = []) :
    (run f failAt).frees.Nodup :=
  St.dropScope_inv _ _ (runGo_inv _ _ _ _ _ fun _ => List.nodup_nil) (finish_bad_nil f _ _ h).1

/-- **No leak.**  If a run records no violation, every object still allocated when the function is left belongs to
    the returned value (directly, or through an object whose ownership the returned value took) — and nothing is
    left allocated on a failing exit. -/
theorem run_no_leak (f : Fn) (failAt : Option Nat) (h : (run f failAt).bad = []) :
    ∀ r ∈ (run f failAt).live,
      (runGo f.borrowed failAt f.body 0 {}).2 = true ∧
      (f.returns.contains r = true ∨ (run f failAt).children.any (fun c => c.1 == r && f.returns.contains c.2) = true) :=
  (finish_bad_nil f _ _ h).2

/-- a failure index beyond the last action is the same as no failure -/
theorem runGo_far (borrowed : List Nat) (i : Nat) (acts : List Act) (idx : Nat) (s : St) (h : idx + acts.length ≤ i) :
    runGo borrowed (some i) acts idx s = runGo borrowed none acts idx s := by
  induction acts generalizing idx s with
  | nil => rfl
  | cons a rest ih =>
    rw [List.length_cons] at h
    have hne : i ≠ idx := by omega
    simpa [runGo, hne] using ih (idx + 1) _ (by omega)

/-- `Fn.ok` covers *every* exit: any failure index, not only the enumerated ones -/
theorem ok_sound_all (f : Fn) (h : f.ok = true) (failAt : Option Nat) :
    (run f failAt).frees.Nodup ∧
    ∀ r ∈ (run f failAt).live, f.returns.contains r = true ∨
      (run f failAt).children.any (fun c => c.1 == r && f.returns.contains c.2) = true := by
  have hall := List.all_eq_true.1 h
  -- the run is one of those the checker enumerated
  have hb : (run f failAt).bad = [] := by
    rcases failAt with _ | i
    · simpa using hall none
    · by_cases hi : i < f.body.length
      · simpa [hi] using hall (some i)
      · simpa [run, runGo_far f.borrowed i f.body 0 {} (by omega)] using hall none
  exact ⟨run_no_double_free f failAt hb, fun r hr => (run_no_leak f failAt hb r hr).2⟩

end PM.Ffi
