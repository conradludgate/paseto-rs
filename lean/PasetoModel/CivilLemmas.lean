import PasetoModel.Json
/-! # The calendar step of the RFC 3339 text is invertible

`Json.civil` (days since 1970-01-01 ↦ year, month, day; the step `fmtTs` takes before it prints the date) has Hinnant's
`days_from_civil` as a left inverse, for every day number, with no bound: distinct days print as distinct dates, and the
month and day it prints are always in range.  The year of the era is found from an estimate that is monotone in the day
and exact at both ends of each of the 400 years. -/
namespace PM.Json

/-- Hinnant's `days_from_civil` -/
def daysFromCivil (y0 : Int) (m d : Nat) : Int :=
  let y := if m ≤ 2 then y0 - 1 else y0
  let era := y.fdiv 400
  let yoe := (y - era * 400).toNat
  let mp := if m > 2 then m - 3 else m + 9
  let doy := (153 * mp + 2) / 5 + d - 1
  let doe := yoe * 365 + yoe / 4 - yoe / 100 + doy
  era * 146097 + (doe : Int) - 719468

/-- days of the era before year `y` of the era -/
def yoeStart (y : Nat) : Nat := 365 * y + y / 4 - y / 100 + y / 400

/-- Hinnant's estimate of 365 × the year of the era, from the day of the era -/
def yoeEst (doe : Nat) : Nat := doe - doe / 1460 + doe / 36524 - doe / 146096

theorem yoeEst_mono {a b : Nat} (h : a ≤ b) : yoeEst a ≤ yoeEst b := by
  unfold yoeEst; omega

/-- the estimate is exact on the first and on the last day of every year of the era (a table of 400 years) -/
theorem yoeEst_ends : ∀ y : Fin 400, yoeEst (yoeStart y) / 365 = y ∧ yoeEst (yoeStart (y + 1) - 1) / 365 = y ∧
    yoeStart (y + 1) ≤ yoeStart y + 366 := by decide +kernel

theorem year_exists (doe n : Nat) (h : doe < yoeStart n) : ∃ y < n, yoeStart y ≤ doe ∧ doe < yoeStart (y + 1) := by
  induction n with
  | zero => simp [yoeStart] at h
  | succ n ih =>
    by_cases hn : doe < yoeStart n
    · obtain ⟨y, hy, h⟩ := ih hn
      exact ⟨y, by omega, h⟩
    · exact ⟨n, by omega, by omega, h⟩

/-- the year of the era: the estimate is monotone and exact at both ends of each year, hence on every day of it -/
theorem doe_step (doe : Nat) (h : doe < 146097) :
    let yoe := (doe - doe / 1460 + doe / 36524 - doe / 146096) / 365
    yoe < 400 ∧ 365 * yoe + yoe / 4 - yoe / 100 ≤ doe ∧ doe - (365 * yoe + yoe / 4 - yoe / 100) < 366 := by
  obtain ⟨y, hy, h1, h2⟩ := year_exists doe 400 h
  obtain ⟨e1, e2, e3⟩ := yoeEst_ends ⟨y, hy⟩
  simp only at e1 e2 e3
  have a := Nat.div_le_div_right (c := 365) (yoeEst_mono h1)
  have b := Nat.div_le_div_right (c := 365) (yoeEst_mono (show doe ≤ yoeStart (y + 1) - 1 by omega))
  have : yoeEst doe / 365 = y := by omega
  intro yoe
  rw [show yoe = y from this]
  simp only [yoeStart] at h1 h2 e3
  omega

theorem doy_step (doy : Nat) (h : doy < 366) :
    let mp := (5 * doy + 2) / 153
    mp < 12 ∧ (153 * mp + 2) / 5 ≤ doy ∧ doy - (153 * mp + 2) / 5 < 31 := by
  intro mp
  omega

theorem fdiv_unique (y e : Int) (r : Nat) (hr : r < 400) (h : y = (r : Int) + e * 400) : y.fdiv 400 = e := by
  rw [Int.fdiv_eq_ediv_of_nonneg _ (by omega)]; omega

/-- Hinnant's decomposition of a day number: era, year of era, day of the (March-based) year, month from March -/
theorem civil_spec (z : Int) : ∃ (era : Int) (yoe doy mp m : Nat),
    yoe < 400 ∧ mp < 12 ∧ (153 * mp + 2) / 5 ≤ doy ∧ doy - (153 * mp + 2) / 5 < 31 ∧
    (if mp < 10 then mp + 3 else mp - 9) = m ∧
    z + 719468 = era * 146097 + ((365 * yoe + yoe / 4 - yoe / 100 + doy : Nat) : Int) ∧
    civil z = ((yoe : Int) + era * 400 + (if m ≤ 2 then 1 else 0), m, doy - (153 * mp + 2) / 5 + 1) := by
  have hs : 0 ≤ z + 719468 - (z + 719468).fdiv 146097 * 146097 ∧
      z + 719468 - (z + 719468).fdiv 146097 * 146097 < 146097 := by
    rw [Int.fdiv_eq_ediv_of_nonneg _ (by omega)]; omega
  generalize hera : (z + 719468).fdiv 146097 = era at hs
  generalize hdoe : (z + 719468 - era * 146097).toNat = doe
  have h1 := doe_step doe (by omega)
  generalize hyoe : (doe - doe / 1460 + doe / 36524 - doe / 146096) / 365 = yoe at h1
  have h2 := doy_step _ h1.2.2
  refine ⟨era, yoe, _, _, _, h1.1, h2.1, h2.2.1, h2.2.2, rfl,
    by rw [Nat.add_sub_cancel' h1.2.1]; clear hyoe h1 h2; omega, ?_⟩
  simp only [civil, hera, hdoe, hyoe]

theorem daysFromCivil_civil (z : Int) :
    daysFromCivil (civil z).1 (civil z).2.1 (civil z).2.2 = z := by
  obtain ⟨era, yoe, doy, mp, m, hy, hmp, h1, h2, hm, hz, hc⟩ := civil_spec z
  rw [hc]
  -- `daysFromCivil` goes back to the year that starts in March: month `mp` of year `yoe` of `era` again
  have hmp' : (if m > 2 then m - 3 else m + 9) = mp := by split at hm <;> split <;> omega
  have hy' : (if m ≤ 2 then (yoe : Int) + era * 400 + (if m ≤ 2 then 1 else 0) - 1
      else yoe + era * 400 + (if m ≤ 2 then 1 else 0)) = yoe + era * 400 := by split <;> omega
  simp only [daysFromCivil, hmp', hy', fdiv_unique _ era yoe hy rfl, Int.add_sub_cancel, Int.toNat_natCast]
  omega

theorem civil_injective (z₁ z₂ : Int) (h : civil z₁ = civil z₂) : z₁ = z₂ := by
  rw [← daysFromCivil_civil z₁, ← daysFromCivil_civil z₂, h]

/-- the month is 1 … 12 and the day 1 … 31, for every day number -/
theorem civil_in_range (z : Int) :
    1 ≤ (civil z).2.1 ∧ (civil z).2.1 ≤ 12 ∧ 1 ≤ (civil z).2.2 ∧ (civil z).2.2 ≤ 31 := by
  obtain ⟨era, yoe, doy, mp, m, _, hmp, h1, h2, hm, _, hc⟩ := civil_spec z
  rw [hc]
  dsimp only
  split at hm <;> omega

/-! ### digits and time of day -/

/-- the number a run of ASCII digits denotes (most significant first) -/
def digitsVal (bs : Bytes) : Nat := bs.foldl (fun a b => a * 10 + (b.toNat - 48)) 0

theorem digitsVal_snoc (xs : Bytes) (b : UInt8) : digitsVal (xs ++ [b]) = digitsVal xs * 10 + (b.toNat - 48) := by
  simp [digitsVal, List.foldl_append]

theorem pad_length (w n : Nat) : (pad w n).length = w := by
  induction w generalizing n with
  | zero => simp [pad]
  | succ w ih => simp [pad, ih]

/-- reading the `w` digits `pad w n` writes gives `n` back, whenever `n` fits in `w` digits -/
theorem digitsVal_pad (w n : Nat) (h : n < 10 ^ w) : digitsVal (pad w n) = n := by
  induction w generalizing n with
  | zero => simp at h; subst h; simp [pad, digitsVal]
  | succ w ih =>
    have h' : n / 10 < 10 ^ w := by rw [Nat.pow_succ] at h; omega
    rw [pad, digitsVal_snoc, ih _ h', UInt8.toNat_ofNat']
    omega

theorem sod_fields (sod : Nat) (h : sod < 86400) :
    sod / 3600 < 24 ∧ sod % 3600 / 60 < 60 ∧ sod % 60 < 60 ∧
      (sod / 3600) * 3600 + (sod % 3600 / 60) * 60 + sod % 60 = sod := by
  omega

/-- the numbers `fmtTs` prints: (year, month, day), hour, minute, second, nanoseconds of the second -/
def tsFields (ns : Int) : (Int × Nat × Nat) × Nat × Nat × Nat × Nat :=
  let secs := ns.fdiv 1000000000
  let frac := (ns.fmod 1000000000).toNat
  let days := secs.fdiv 86400
  let sod := (secs.fmod 86400).toNat
  (civil days, sod / 3600, sod % 3600 / 60, sod % 60, frac)

/-- the instant that printed numbers denote: the inverse of `tsFields` -/
def instantOf : (Int × Nat × Nat) × Nat × Nat × Nat × Nat → Int
  | ((y, m, d), hh, mm, ss, frac) =>
    (daysFromCivil y m d * 86400 + ((hh * 3600 + mm * 60 + ss : Nat) : Int)) * 1000000000 + (frac : Int)

theorem instantOf_tsFields (ns : Int) : instantOf (tsFields ns) = ns := by
  simp only [instantOf, tsFields, daysFromCivil_civil]
  rw [Int.fmod_eq_emod_of_nonneg _ (by omega), Int.fmod_eq_emod_of_nonneg _ (by omega),
    Int.fdiv_eq_ediv_of_nonneg _ (by omega), Int.fdiv_eq_ediv_of_nonneg _ (by omega)]
  omega

/-- the printed numbers determine the instant, for every `ns : Int` (no range restriction) -/
theorem tsFields_injective (a b : Int) (h : tsFields a = tsFields b) : a = b := by
  rw [← instantOf_tsFields a, h, instantOf_tsFields]

/-! ### the fraction -/

/-- stripping trailing `0`s and putting them back is the identity -/
theorem strip_restore (l : Bytes) :
    (l.reverse.dropWhile (· = 48)).reverse ++ List.replicate (l.length - (l.reverse.dropWhile (· = 48)).length) 48 = l := by
  have h := List.takeWhile_append_dropWhile (p := (· = 48)) (l := l.reverse)
  -- what `dropWhile` removed is a run of `0`s, as long as the two lengths differ
  have hz : l.reverse.takeWhile (· = 48) = List.replicate (l.reverse.takeWhile (· = 48)).length 48 :=
    List.eq_replicate_iff.2 ⟨rfl, fun b hb => by simpa using List.all_eq_true.1 List.all_takeWhile b hb⟩
  have hl := congrArg List.length h
  rw [List.length_append, List.length_reverse] at hl
  rw [show l.length - _ = (l.reverse.takeWhile (· = 48)).length by omega, ← List.reverse_replicate, ← hz,
    ← List.reverse_append, h, List.reverse_reverse]

/-- the fraction reads back: the digits after the point, padded on the right with `0` to nine, denote `f` -/
theorem frac_reads_back (f : Nat) (h0 : 0 < f) (h : f < 10 ^ 9) :
    ∃ ds, fracDigits f = 46 :: ds ∧ ds.length ≤ 9 ∧ digitsVal (ds ++ List.replicate (9 - ds.length) 48) = f := by
  refine ⟨((pad 9 f).reverse.dropWhile (· = 48)).reverse, ?_, ?_, ?_⟩
  · simp [fracDigits, show f ≠ 0 by omega]
  · have := (List.dropWhile_sublist (· = 48) (l := (pad 9 f).reverse)).length_le
    simpa [pad_length] using this
  · have := strip_restore (pad 9 f)
    rw [pad_length] at this
    rw [List.length_reverse, this]
    exact digitsVal_pad 9 f h

/-- the text `fmtTs` writes, as a function of the printed numbers alone -/
def renderFields : (Int × Nat × Nat) × Nat × Nat × Nat × Nat → Bytes
  | ((y, m, d), hh, mm, ss, frac) =>
    let year := if y < 0 then 45 :: pad 6 (-y).toNat else pad 4 y.toNat
    year ++ [45] ++ pad 2 m ++ [45] ++ pad 2 d ++ [84] ++ pad 2 hh ++ [58] ++ pad 2 mm ++ [58] ++
      pad 2 ss ++ fracDigits frac ++ [90]

theorem fmtTs_eq_render (ns : Int) : fmtTs ns = renderFields (tsFields ns) := by
  rfl

/-! ### reading the whole text back -/

theorem len2 (l : Bytes) (h : l.length = 2) : ∃ a b, l = [a, b] := by
  match l, h with
  | [a, b], _ => exact ⟨a, b, rfl⟩

theorem len4 (l : Bytes) (h : l.length = 4) : ∃ a b c d, l = [a, b, c, d] := by
  match l, h with
  | [a, b, c, d], _ => exact ⟨a, b, c, d, rfl⟩

/-- the optional fraction and the final `Z` -/
def readFrac : Bytes → Nat
  | 46 :: r => digitsVal (r.dropLast ++ List.replicate (9 - r.dropLast.length) 48)
  | _ => 0

/-- a reader for the text `fmtTs` writes for years 0 … 9999 (fixed offsets; optional fraction before the final `Z`) -/
def readTs (t : Bytes) : Int :=
  let y := digitsVal (t.take 4)
  let m := digitsVal ((t.drop 5).take 2)
  let d := digitsVal ((t.drop 8).take 2)
  let hh := digitsVal ((t.drop 11).take 2)
  let mm := digitsVal ((t.drop 14).take 2)
  let ss := digitsVal ((t.drop 17).take 2)
  let frac := readFrac (t.drop 19)
  (daysFromCivil (y : Int) m d * 86400 + ((hh * 3600 + mm * 60 + ss : Nat) : Int)) * 1000000000 + (frac : Int)

theorem readFrac_tail (frac : Nat) (hfrlt : frac < 10 ^ 9) : readFrac (fracDigits frac ++ [90]) = frac := by
  by_cases h0 : frac = 0
  · subst h0; rfl
  · obtain ⟨ds, e1, _, e3⟩ := frac_reads_back frac (by omega) hfrlt
    rw [e1, List.cons_append, readFrac, List.dropLast_concat]
    exact e3

/-- read a `w`-digit number and skip the byte after it -/
def field (w : Nat) (t : Bytes) : Nat × Bytes := (digitsVal (t.take w), t.drop (w + 1))

theorem field_pad {w n : Nat} (h : n < 10 ^ w) (c : UInt8) (r : Bytes) : field w (pad w n ++ c :: r) = (n, r) := by
  rw [field, List.take_left' (pad_length w n), digitsVal_pad w n h, ← List.drop_drop, List.drop_left' (pad_length w n)]
  rfl

/-- `readTs` / `readTsNeg` as a sequence of field reads, with the width of the year and its sign left open -/
def readSeq (w : Nat) (sg : Nat → Int) (t : Bytes) : Int :=
  let (y, t) := field w t
  let (m, t) := field 2 t
  let (d, t) := field 2 t
  let (hh, t) := field 2 t
  let (mm, t) := field 2 t
  let ss := digitsVal (t.take 2)
  instantOf ((sg y, m, d), hh, mm, ss, readFrac (t.drop 2))

theorem readTs_eq (t : Bytes) : readTs t = readSeq 4 (fun y => y) t := by
  simp only [readTs, readSeq, field, instantOf, List.drop_drop, Nat.reduceAdd]

/-- the text of the printed numbers behind a given text of the year -/
def bodyText (yr : Bytes) : (Int × Nat × Nat) × Nat × Nat × Nat × Nat → Bytes
  | ((_, m, d), hh, mm, ss, frac) =>
    yr ++ [45] ++ pad 2 m ++ [45] ++ pad 2 d ++ [84] ++ pad 2 hh ++ [58] ++ pad 2 mm ++ [58] ++
      pad 2 ss ++ fracDigits frac ++ [90]

theorem renderFields_eq (f : (Int × Nat × Nat) × Nat × Nat × Nat × Nat) :
    renderFields f = bodyText (if f.1.1 < 0 then 45 :: pad 6 (-f.1.1).toNat else pad 4 f.1.1.toNat) f := rfl

/-- the reader inverts the renderer on the printed numbers, whatever the width `w` of the year and the way `sg` its
    digits are turned into the year -/
theorem readSeq_render (w Y : Nat) (sg : Nat → Int) (y : Int) (m d hh mm ss frac : Nat)
    (hY : Y < 10 ^ w) (hm : m < 10 ^ 2) (hd : d < 10 ^ 2) (hh' : hh < 10 ^ 2) (hmm : mm < 10 ^ 2) (hss : ss < 10 ^ 2)
    (hf : frac < 10 ^ 9) :
    readSeq w sg (bodyText (pad w Y) ((y, m, d), hh, mm, ss, frac)) = instantOf ((sg Y, m, d), hh, mm, ss, frac) := by
  simp only [readSeq, bodyText, List.append_assoc, List.cons_append, List.nil_append, field_pad hY, field_pad hm,
    field_pad hd, field_pad hh', field_pad hmm, List.take_left' (pad_length 2 ss), List.drop_left' (pad_length 2 ss),
    digitsVal_pad 2 ss hss, readFrac_tail frac hf]

/-- reading the text of an instant behind a `w`-digit year `Y` gives the instant back -/
theorem readSeq_bodyText (w Y : Nat) (sg : Nat → Int) (ns : Int) (hY : Y < 10 ^ w) (hs : sg Y = (tsFields ns).1.1) :
    readSeq w sg (bodyText (pad w Y) (tsFields ns)) = ns := by
  have hr : _ ∧ (tsFields ns).1.2.1 ≤ 12 ∧ _ ∧ (tsFields ns).1.2.2 ≤ 31 := civil_in_range _
  have hsod : ((ns.fdiv 1000000000).fmod 86400).toNat < 86400 := by
    rw [Int.fmod_eq_emod_of_nonneg _ (by omega)]; omega
  have hfr : (ns.fmod 1000000000).toNat < 10 ^ 9 := by
    rw [Int.fmod_eq_emod_of_nonneg _ (by omega)]; omega
  -- month and day are named: left to unification they would come out as `civil` unfolded
  refine (readSeq_render w Y sg _ (tsFields ns).1.2.1 (tsFields ns).1.2.2 _ _ _ _ hY ?_ ?_ ?_ ?_ ?_ hfr).trans
    (hs ▸ instantOf_tsFields ns)
  all_goals omega

theorem readTs_fmtTs (ns : Int)
    (hy0 : 0 ≤ (civil ((ns.fdiv 1000000000).fdiv 86400)).1) (hy1 : (civil ((ns.fdiv 1000000000).fdiv 86400)).1 < 10000) :
    readTs (fmtTs ns) = ns := by
  rw [readTs_eq, fmtTs_eq_render, renderFields_eq, if_neg (show ¬ (tsFields ns).1.1 < 0 from Int.not_lt.2 hy0)]
  exact readSeq_bodyText 4 _ (fun y => y) ns (by simp only [tsFields]; omega) (Int.toNat_of_nonneg hy0)

end PM.Json
