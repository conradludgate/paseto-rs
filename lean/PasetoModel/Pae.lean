import PasetoModel.Basic
/-! Mirror of `paseto_core::pae::pre_auth_encode` and the specification's PAE. -/
namespace PM

/-- the spec's PAE over whole pieces -/
def paeBody : List Bytes → Bytes
  | [] => []
  | p :: ps => le64 p.length ++ p ++ paeBody ps

/-- PAE of the PASETO specification: LE64(count) ‖ for each piece LE64(len) ‖ piece -/
def paeSpec (ps : List Bytes) : Bytes := le64 ps.length ++ paeBody ps

/-- mirror of `pre_auth_encode`: pieces given as fragment lists; returns the list of `write`
    calls the writer receives (`N as u64`, `x.len() as u64` summed in u64, i.e. wrapping). -/
def paeWrites (pieces : List (List Bytes)) : List Bytes :=
  le64 (pieces.length % 2^64) ::
    pieces.flatMap (fun frags => le64 ((frags.map List.length).sum % 2^64) :: frags)

/-- what a `Vec<u8>` writer holds afterwards -/
def pae (pieces : List (List Bytes)) : Bytes := (paeWrites pieces).flatten

def unBody : Nat → Bytes → Option (List Bytes × Bytes)
  | 0, rest => some ([], rest)
  | k+1, bs =>
    if bs.length < 8 then none else
    let n := fromLe64 (bs.take 8)
    let r := bs.drop 8
    if r.length < n then none else
    match unBody k (r.drop n) with
    | some (ps, rest) => some (r.take n :: ps, rest)
    | none => none

/-- a decoder for PAE: witnesses injectivity -/
def unpae (bs : Bytes) : Option (List Bytes) :=
  if bs.length < 8 then none else
  match unBody (fromLe64 (bs.take 8)) (bs.drop 8) with
  | some (ps, []) => some ps
  | _ => none

theorem take_le64_append (n : Nat) (r : Bytes) : (le64 n ++ r).take 8 = le64 n := List.take_left' (le64_length n)
theorem drop_le64_append (n : Nat) (r : Bytes) : (le64 n ++ r).drop 8 = r := List.drop_left' (le64_length n)

theorem unBody_paeBody (ps : List Bytes) (rest : Bytes) (h : ∀ p ∈ ps, p.length < 2^64) :
    unBody ps.length (paeBody ps ++ rest) = some (ps, rest) := by
  induction ps with
  | nil => rfl
  | cons p ps ih =>
    simp [unBody, paeBody, le64_length, take_le64_append, drop_le64_append, fromLe64_le64 _ (h p (by simp)),
      ih (fun q hq => h q (by simp [hq]))]

theorem unpae_paeSpec (ps : List Bytes) (hn : ps.length < 2^64) (h : ∀ p ∈ ps, p.length < 2^64) :
    unpae (paeSpec ps) = some ps := by
  have e : unBody ps.length (paeBody ps) = some (ps, []) := by simpa using unBody_paeBody ps [] h
  simp [unpae, paeSpec, le64_length, take_le64_append, drop_le64_append, fromLe64_le64 _ hn, e]

theorem paeWrites_flatten (pieces : List (List Bytes))
    (hn : pieces.length < 2^64) (h : ∀ f ∈ pieces, (f.map List.length).sum < 2^64) :
    (paeWrites pieces).flatten = paeSpec (pieces.map List.flatten) := by
  unfold paeWrites paeSpec
  simp only [List.flatten_cons, List.length_map, Nat.mod_eq_of_lt hn]
  congr 1
  induction pieces with
  | nil => rfl
  | cons f fs ih =>
    simp [paeBody, Nat.mod_eq_of_lt (h f (by simp)), List.length_flatten,
      ih (by simp at hn; omega) (fun g hg => h g (by simp [hg]))]

end PM
