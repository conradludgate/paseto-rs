import PasetoModel.Claims
/-! helper lemmas for the C14 property theorems (kept apart from `Props/C14.lean`) -/
namespace PM.C14

theorem ite_some {α} {c : Prop} [Decidable c] {a b : α} {e : Option α} (h : (if c then some a else e) = some b) :
    c ∧ a = b ∨ e = some b := by
  by_cases hc : c
  · rw [if_pos hc] at h; exact .inl ⟨hc, Option.some.inj h⟩
  · rw [if_neg hc] at h; exact .inr h

/-- `fieldOf` recognises exactly the seven wire names -/
theorem fieldOf_eq_some {k : Bytes} {f : Fld} : fieldOf k = some f ↔ k = f.name := by
  constructor
  · intro h
    unfold fieldOf at h
    -- down the chain of `if`s: the answer is `f` at the first test that succeeds
    repeat (rcases ite_some h with ⟨hk, rfl⟩ | h; exact hk)
    cases h
  · rintro rfl; cases f <;> rfl

theorem fieldOf_name (f : Fld) : fieldOf f.name = some f := fieldOf_eq_some.2 rfl

theorem name_injective {f g : Fld} (h : f.name = g.name) : f = g :=
  Option.some.inj (by rw [← fieldOf_name f, h, fieldOf_name])

theorem set_comm (a : Acc) (f g : Fld) (x y : Option FVal) (h : f ≠ g) :
    (a.set f x).set g y = (a.set g y).set f x := by
  funext k
  simp only [Acc.set]
  by_cases h1 : k = g <;> by_cases h2 : k = f <;> simp_all

/-- the visitor's action on a member whose key is the registered claim `f` (`none` = payload error) -/
def stepF (f : Fld) (v : JVal) (acc : Acc) : Option Acc :=
  if (acc f).isSome then none else (convO f v).map (acc.set f)

/-- one step of the visitor loop (`none` = the loop returns a payload error) -/
def stepO (m : Bytes × JVal) (acc : Acc) : Option Acc :=
  match fieldOf m.1 with
  | some f => stepF f m.2 acc
  | none => some acc

theorem decodeGo_cons (m : Bytes × JVal) (rest : Members) (acc : Acc) :
    decodeGo (m :: rest) acc =
      match stepO m acc with | some a => decodeGo rest a | none => .err .payload := by
  obtain ⟨k, v⟩ := m
  simp only [decodeGo, stepO, stepF]
  cases fieldOf k with
  | none => rfl
  | some f =>
    simp only []
    split
    · rfl
    · cases convO f v <;> rfl

/-- steps for different claims commute: each looks at and writes its own slot only -/
theorem stepF_comm {f g : Fld} (h : f ≠ g) (v w : JVal) (acc : Acc) :
    (stepF f v acc).bind (stepF g w) = (stepF g w acc).bind (stepF f v) := by
  have h' := h.symm
  cases hv : convO f v <;> cases hw : convO g w <;> cases hf : acc f <;> cases hg : acc g <;>
    simp [stepF, Acc.set, h, h', hv, hw, hf, hg]
  exact set_comm acc f g _ _ h

theorem stepO_none {m : Bytes × JVal} (h : fieldOf m.1 = none) : stepO m = some :=
  funext fun _ => by simp [stepO, h]
theorem stepO_some {m : Bytes × JVal} {f : Fld} (h : fieldOf m.1 = some f) : stepO m = stepF f m.2 :=
  funext fun _ => by simp [stepO, h]

/-- two adjacent members that are not the same registered claim commute -/
theorem stepO_comm (x y : Bytes × JVal) (acc : Acc)
    (h : ∀ f, fieldOf x.1 = some f → fieldOf y.1 ≠ some f) :
    (stepO x acc).bind (stepO y) = (stepO y acc).bind (stepO x) := by
  cases hx : fieldOf x.1 with
  | none => simp [stepO_none hx]
  | some f =>
    cases hy : fieldOf y.1 with
    | none => simp [stepO_none hy]
    | some g =>
      rw [stepO_some hx, stepO_some hy]
      exact stepF_comm (f := f) (g := g) (fun e => h f hx (e ▸ hy)) _ _ acc

theorem swap_ok (x y : Bytes × JVal) (rest : Members) (acc : Acc)
    (h : ∀ f, fieldOf x.1 = some f → fieldOf y.1 ≠ some f) :
    decodeGo (x :: y :: rest) acc = decodeGo (y :: x :: rest) acc := by
  have two (x y) : decodeGo (x :: y :: rest) acc =
      match (stepO x acc).bind (stepO y) with | some a => decodeGo rest a | none => .err .payload := by
    simp only [decodeGo_cons]
    cases stepO x acc <;> rfl
  rw [two, two, stepO_comm x y acc h]

/-- what a successful step leaves in the slot of claim `f` -/
theorem stepO_slot {k : Bytes} {v : JVal} {acc acc' : Acc} (h : stepO (k, v) acc = some acc') (f : Fld) :
    acc' f = if k = f.name then (convO f v).getD none else acc f := by
  simp only [← fieldOf_eq_some]
  unfold stepO stepF at h
  cases hk : fieldOf k with
  | none => simp_all
  | some g =>
    simp only [hk] at h
    split at h
    · cases h
    · obtain ⟨x, hx, rfl⟩ := Option.map_eq_some_iff.1 h
      by_cases e : g = f
      · simp [Acc.set, ← e, hx]
      · simp [Acc.set, e, Ne.symm e]

/-- value the final accumulator holds for a claim, in terms of the *last* member with that name:
    whenever decoding succeeds, each registered claim has the value a generic (last-wins) JSON
    parser reads for that member — including the `{"iss":null,"iss":"x"}` corner, which succeeds. -/
theorem decodeGo_lookupLast (l : Members) (acc a : Acc) (h : decodeGo l acc = .ok a) (f : Fld) :
    a f = match lookupLast l f.name with
          | some v => (convO f v).getD none
          | none => acc f := by
  induction l generalizing acc with
  | nil => simp [decodeGo] at h; simp [lookupLast, h]
  | cons m rest ih =>
    obtain ⟨k, v⟩ := m
    rw [decodeGo_cons] at h
    cases hs : stepO (k, v) acc with
    | none => simp [hs] at h
    | some acc' =>
      rw [ih acc' (by simpa [hs] using h), lookupLast, stepO_slot hs f]
      cases lookupLast rest f.name with
      | some _ => rfl
      | none => by_cases e : k = f.name <;> simp [e]

/-- generic reading of a member: `null` or absent ↦ no claim -/
def optOfJ (f : Fld) : Option JVal → Option FVal
  | some v => (convO f v).getD none
  | none => none

/-- values produced by the field converters have the field's type -/
def typed (f : Fld) : Option FVal → Prop
  | none => True
  | some (.s _) => f.isTime = false
  | some (.t _) => f.isTime = true

theorem convO_typed (f : Fld) (v : JVal) : typed f ((convO f v).getD none) := by
  cases v <;> simp [convO, typed]
  rename_i s ts
  by_cases h : f.isTime = true
  · cases ts <;> simp [h]
  · simp [h]

theorem get_toClaims (a : Acc) (f : Fld) (h : typed f (a f)) : a.toClaims.get f = a f := by
  cases f <;> simp only [Acc.toClaims, Claims.get] <;>
    (cases hv : a _ with
     | none => simp [getS, getT]
     | some x => cases x <;> simp_all [typed, getS, getT, Fld.isTime])

/-! ### the encoder's output -/

/-- the value the encoder writes for a claim -/
def jOf (fmt : Int → Bytes) : FVal → JVal
  | .s b => .str b none
  | .t n => .str (fmt n) (some n)

theorem claimsEncode_eq (fmt : Int → Bytes) (c : Claims) :
    claimsEncode fmt c = Fld.all.filterMap fun f => (c.get f).map fun v => (f.name, jOf fmt v) := by
  unfold claimsEncode
  congr; funext f
  cases c.get f with
  | none => rfl
  | some v => cases v <;> rfl

theorem typed_map {f : Fld} {α} {k : α → FVal} (hk : ∀ x, typed f (some (k x))) : ∀ o : Option α, typed f (o.map k)
  | none => trivial
  | some x => hk x

theorem get_typed (c : Claims) (f : Fld) : typed f (c.get f) := by
  cases f <;> exact typed_map (fun _ => by rfl) _

theorem convO_jOf (fmt : Int → Bytes) {f : Fld} {v : FVal} (h : typed f (some v)) :
    convO f (jOf fmt v) = some (some v) := by
  cases v <;> simp_all [typed, jOf, convO]

theorem getS_map (o : Option Bytes) : getS (o.map .s) = o := by cases o <;> rfl
theorem getT_map (o : Option Int) : getT (o.map .t) = o := by cases o <;> rfl

theorem toClaims_get (c : Claims) : Acc.toClaims c.get = c := by
  simp [Acc.toClaims, Claims.get, getS_map, getT_map]

theorem mem_all (f : Fld) : f ∈ Fld.all := by cases f <;> decide

/-- The visitor loop run over what the encoder writes for the claims `fs`, from an accumulator still empty on `fs`,
    puts each of them into its slot. -/
theorem decodeGo_encode (fmt : Int → Bytes) (c : Claims) (fs : List Fld) (acc : Acc)
    (hn : fs.Nodup) (h0 : ∀ f ∈ fs, acc f = none) :
    decodeGo (fs.filterMap fun f => (c.get f).map fun v => (f.name, jOf fmt v)) acc =
      .ok (fs.foldl (fun a f => a.set f (c.get f)) acc) := by
  induction fs generalizing acc with
  | nil => rfl
  | cons f fs ih =>
    obtain ⟨hnf, hn⟩ := List.nodup_cons.1 hn
    have hf := h0 f (by simp)
    rw [List.foldl_cons, ← ih _ hn fun g hg => by
      simp [Acc.set, show g ≠ f from fun e => hnf (e ▸ hg), h0 g (by simp [hg])], List.filterMap_cons]
    cases hv : c.get f with
    | none =>
      rw [show acc.set f none = acc from funext fun g => by by_cases e : g = f <;> simp [Acc.set, e, hf]]
      rfl
    | some v => simp only [Option.map_some, decodeGo, fieldOf_name, hf, convO_jOf fmt (hv ▸ get_typed c f)]; rfl

theorem filterMap_sublist_map {α β} {f : α → Option β} {g : α → β} (H : ∀ a b, f a = some b → b = g a) :
    ∀ l : List α, (l.filterMap f).Sublist (l.map g)
  | [] => .slnil
  | a :: l => by
    rw [List.filterMap_cons, List.map_cons]
    cases h : f a with
    | none => exact (filterMap_sublist_map H l).cons _
    | some b => exact H a b h ▸ (filterMap_sublist_map H l).cons_cons _

end PM.C14
