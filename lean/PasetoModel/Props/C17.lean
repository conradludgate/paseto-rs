import PasetoModel.Conc
import PasetoModel.Ffi
import PasetoModel.Asym
import PasetoModel.Extracted.Ffi
import PasetoModel.Extracted.Source
/-! # C17 — shared keys under concurrency and after failures
(Partial: data races inside aws-lc / libsodium and the soundness of `unsafe impl Send/Sync` cannot
be exhibited by a Lean model; the model shows that the Rust side holds no shared mutable state,
that results are schedule-independent, and that wrapper ownership is unique.) -/
namespace PM.C17
open Conc

/-- no operation ever modifies the shared key: after any schedule the key is the initial key -/
theorem key_never_modified {K O} (key : K) (progs : List (List (Op K O))) (sched : List Nat) :
    (run (init key progs) sched).key = key := (inv_run key progs sched).1

/-- what a thread has produced, followed by what its pending operations will produce, is its sequential result -/
theorem outputs_append_pending {K O} (key : K) (progs : List (List (Op K O))) (sched : List Nat)
    (i : Nat) (hi : i < progs.length) :
    ((run (init key progs) sched).outputs[i]?.getD []) ++
      ((run (init key progs) sched).pending[i]?.getD []).map (fun op => op key) = (sequential key progs)[i]?.getD [] := by
  rw [(inv_run key progs sched).2.2.2 i hi]
  simp [sequential, hi]

/-- **Interleaving independence.** For every schedule that lets every thread finish, each thread's
    results are exactly the results it would compute alone on the same key. -/
theorem interleaving_independent {K O} (key : K) (progs : List (List (Op K O))) (sched : List Nat)
    (hdone : ∀ i, i < progs.length → ((run (init key progs) sched).pending[i]?.getD []) = []) :
    ∀ i, i < progs.length →
      ((run (init key progs) sched).outputs[i]?.getD []) = (sequential key progs)[i]?.getD [] := by
  intro i hi
  rw [← outputs_append_pending key progs sched i hi, hdone i hi]
  simp

/-- at any moment (also for unfinished schedules) what a thread has produced is a prefix of its
    sequential results: every concurrent result is one sequential use could produce -/
theorem partial_results_are_sequential_prefix {K O} (key : K) (progs : List (List (Op K O))) (sched : List Nat)
    (i : Nat) (hi : i < progs.length) :
    ((run (init key progs) sched).outputs[i]?.getD []) <+: (sequential key progs)[i]?.getD [] :=
  ⟨_, outputs_append_pending key progs sched i hi⟩

/-- two schedules that both complete give identical outputs -/
theorem schedules_agree {K O} (key : K) (progs : List (List (Op K O))) (s₁ s₂ : List Nat)
    (h₁ : ∀ i, i < progs.length → ((run (init key progs) s₁).pending[i]?.getD []) = [])
    (h₂ : ∀ i, i < progs.length → ((run (init key progs) s₂).pending[i]?.getD []) = [])
    (i : Nat) (hi : i < progs.length) :
    ((run (init key progs) s₁).outputs[i]?.getD []) = ((run (init key progs) s₂).outputs[i]?.getD []) := by
  rw [interleaving_independent key progs s₁ h₁ i hi, interleaving_independent key progs s₂ h₂ i hi]

/-- **Failures leave the key unchanged**: operations are functions into `Res`; whatever mixture of
    failing and succeeding calls a history contains, a later operation gives the same result as on
    a fresh copy of the key. -/
theorem after_failures_same {K α} (key : K) (history : List (Op K (Res α))) (op : Op K (Res α)) :
    ((run (init key [history ++ [op]]) (List.replicate (history.length + 1) 0)).outputs[0]?.getD []).getLast? =
      some (op key) := by
  -- scheduled `history.length + 1` times the thread has nothing pending: its outputs are the sequential results
  have h := outputs_append_pending key [history ++ [op]] (List.replicate (history.length + 1) 0) 0 (by simp)
  rw [run_replicate_pending] at h
  simpa [init, sequential] using congrArg List.getLast? h

/-- the aws-lc key wrappers: cloning allocates a new `EC_KEY` owned by the clone alone, and every
    path of `clone` / construction is balanced (from C04's exhaustive path check), so each object is
    freed exactly once by its unique owner whatever the interleaving of clone and drop -/
theorem clone_paths_balanced : Ffi.signingKeyClone.ok = true ∧ Ffi.verifyingKeyClone.ok = true := by decide

/-! ### the model's premise, re-read from the current source (`tools/srcscan.py`, `tools/ffiscan.py`)

`Op K O := K → O` says an operation is a function of the shared key (and of its own arguments and randomness).  In
safe Rust, state reachable through `&Key` can change, and state can outlive a call, only through `UnsafeCell` and the
types built on it, a `static`, a thread local, or `unsafe` code. -/

/-- the library crates contain no interior mutability, `static mut`, thread local, lazily initialised global, lock or
    atomic: there is nothing through which two uses of a key could influence each other on the Rust side -/
theorem no_shared_mutable_state : Extracted.Source.sharedState = [] := by decide

/-- every library crate forbids or denies `unsafe_code` at crate level, it is re-allowed only in `base64.rs` and
    `lc/mod.rs`, and the keyword occurs only in those and in `lc/ptr.rs` (whose ownership discipline is C04's) -/
theorem unsafe_confined :
    Extracted.Source.unsafePolicy.all (fun p => p.2 == "forbid" || p.2 == "deny") = true ∧
    Extracted.Source.crates.length = Extracted.Source.unsafePolicy.length ∧ 8 ≤ Extracted.Source.crates.length ∧
    Extracted.Source.unsafeAllowed.all (fun f => ["paseto-core/src/base64.rs", "paseto-v3-aws-lc/src/lc/mod.rs"].contains f) = true ∧
    Extracted.Source.unsafeFiles.all (fun f => ["paseto-core/src/base64.rs", "paseto-v3-aws-lc/src/lc/mod.rs",
      "paseto-v3-aws-lc/src/lc/ptr.rs"].contains f.1) = true := by decide

/-- the only `unsafe impl`s of the aws-lc wrapper module are `Send` / `Sync`; the types they are declared for hold
    nothing with a non-atomic shared count or interior mutability (`Rc`, `Weak`, `Cell`, `RefCell`, `UnsafeCell`, followed
    through the structs of `lc/mod.rs` and `lc/ptr.rs`); and no function writes through, or releases, an aws-lc object it
    holds only by shared reference (`&self`, `&VerifyingKey`, `&Signature`, `ConstPointer`), so sharing a key across
    threads only ever *reads* it.  (Names and shapes of the wrapper structs are not constrained.) -/
theorem send_sync_keys_are_read_only :
    Extracted.Ffi.unsafeImpls.all (fun p => p.1 == "Send" || p.1 == "Sync") = true ∧
    Extracted.Ffi.sendSyncFieldViolations = [] ∧
    Extracted.Ffi.sharedMutations = [] := by decide

/-- no wrapper consults or changes aws-lc's per-thread / process-wide state (error queue, RNG seeding, global
    configuration): what a call returns cannot depend on what an earlier — possibly failed — call left behind there -/
theorem no_thread_state_calls : Extracted.Ffi.threadStateCalls = [] := by decide

/-- clone / construction paths of the *current* source are balanced (C04's exhaustive path check on the translated lists) -/
theorem extracted_clone_paths_balanced :
    (Extracted.Ffi.fns.filter (fun f => f.name == "<SigningKey as Clone>::clone" || f.name == "<VerifyingKey as Clone>::clone")).length = 2 ∧
    (Extracted.Ffi.fns.filter (fun f => f.name == "<SigningKey as Clone>::clone" || f.name == "<VerifyingKey as Clone>::clone")).all Ffi.Fn.ok = true := by decide

/-! non-vacuity: two threads, three operations, an arbitrary interleaving -/
example : ((run (init (5 : Nat) [[(· + 1), (· * 2)], [(· + 10)]]) [1, 0, 0]).outputs) = [[6, 10], [15]] := by decide
example : ((run (init (5 : Nat) [[(· + 1), (· * 2)], [(· + 10)]]) [0, 1, 0]).outputs) = [[6, 10], [15]] := by decide

end PM.C17
