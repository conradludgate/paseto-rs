import PasetoModel.FeatSlice
/-! # C19 — every feature subset builds; reduced builds behave like the full one
The feature tables and the item-level `cfg` gates are re-scanned from the working tree on every
run; the kernel re-decides consistency for all 2⁹ subsets per crate, all of them in one pass
(`FeatSlice.lean`).  (Partial: cargo / rustc decide what "builds"; the scan is syntactic — explicit
paths to optional crates and to gated sibling items.  Tie: `cargo check` of feature subsets.) -/
namespace PM.C19
open Feat Extracted.Feat

/-- the subsets enumerated are all 2ⁿ bit masks -/
theorem subsets_length (n : Nat) : (subsets n).length = 2 ^ n := by simp [subsets]
theorem subsets_mem (n S : Nat) (h : S < 2 ^ n) : S ∈ subsets n := by simp [subsets, h]

/-- every subset of the nine features of each RustCrypto-based crate is consistent: whenever a
    gated context is compiled in, every optional crate and every gated item it refers to is too -/
theorem all_subsets_consistent_v1 : (subsets paseto_v1.nFeatures).all (consistent paseto_v1) = true :=
  all_consistent_of_sliced (by decide +kernel)
theorem all_subsets_consistent_v2 : (subsets paseto_v2.nFeatures).all (consistent paseto_v2) = true :=
  all_consistent_of_sliced (by decide +kernel)
theorem all_subsets_consistent_v3 : (subsets paseto_v3.nFeatures).all (consistent paseto_v3) = true :=
  all_consistent_of_sliced (by decide +kernel)
theorem all_subsets_consistent_v4 : (subsets paseto_v4.nFeatures).all (consistent paseto_v4) = true :=
  all_consistent_of_sliced (by decide +kernel)

/-- gates are at top item level only: no `cfg!`, no gated statements inside function bodies, and no gated
    associated items inside `impl` / `trait` bodies (a gated associated item of a trait impl would silently fall
    back to the trait's default when the feature is off).  Hence the source of an included item does not depend
    on the feature selection, so an operation available in a reduced build is the same code as in the full build. -/
theorem gates_item_level :
    paseto_v1.stmtLevelGates = 0 ∧ paseto_v2.stmtLevelGates = 0 ∧ paseto_v3.stmtLevelGates = 0 ∧
    paseto_v4.stmtLevelGates = 0 ∧
    paseto_v1.innerGates = 0 ∧ paseto_v2.innerGates = 0 ∧ paseto_v3.innerGates = 0 ∧ paseto_v4.innerGates = 0 := by decide

/-- on every subset, closure is extensive (as for any edges) and, by decision on the extracted edges of paseto-v4, idempotent -/
theorem closure_extensive_idempotent_v4 :
    (subsets paseto_v4.nFeatures).all (fun S =>
      let C := closure paseto_v4.edges paseto_v4.nFeatures S
      (C &&& S == S) && (closure paseto_v4.edges paseto_v4.nFeatures C == C)) = true := by
  have h : idempotentT paseto_v4.edges paseto_v4.nFeatures = true := by decide +kernel
  simp only [subsets, List.all_eq_true, List.mem_range, Bool.and_eq_true, beq_iff_eq]
  exact fun S hS => ⟨closure_extensive .., closure_idempotent_of_sliced h hS⟩

/-! non-vacuity: the predicate is falsifiable — a reference from a `verifying` context to an item only
    present with `signing` is inconsistent for the subset {verifying} -/
example : consistent { nFeatures := 2, edges := [(0, 1)], refs := [⟨.feat 1, .feat 0⟩], stmtLevelGates := 0, innerGates := 0 } 2 = false := by decide
example : paseto_v4.nFeatures = 9 := by decide

end PM.C19
