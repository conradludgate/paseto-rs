import PasetoModel.PaserkInst
import PasetoModel.SpecHeaders
/-! # C07 — PASERK wraps, seals and password-wraps are bit-exact per spec and interoperate -/
namespace PM.C07

/-- the implementation's PIE / PBKW / PKE schemes are the specification's as soon as the code's
    choices conform (full-width counter, padded RSA-KEM ciphertext, Argon2 parameter handling) -/
def Conforms (c : BackendCfg) : Prop :=
  c.ctrBits = 128 ∧ c.kemCtPadded = true ∧ c.argonMemMod1024 = false ∧ c.argonParallel = true ∧
  c.pbkwRejectsZeroIter = specCfg.pbkwRejectsZeroIter ∧ c.skChecksPubHalf = true

instance (c : BackendCfg) : Decidable (Conforms c) := by unfold Conforms; exact inferInstance

theorem pie_impl_eq_spec (version : Nat) (c : BackendCfg) (h : c.ctrBits = 128) :
    pieSym version c = pieSym version specCfg := by
  unfold pieSym; simp [h, specCfg]

theorem pbkw_impl_eq_spec (version : Nat) (c : BackendCfg) (h : Conforms c) :
    pbkwSchemeOf version c = pbkwSchemeOf version specCfg := by
  obtain ⟨h1, -, h3, h4, h5, -⟩ := h
  have hp : pbkdfKdf c = pbkdfKdf specCfg := by
    funext pass salt params; simp [pbkdfKdf, h5]
  have ha : argonKdf c = argonKdf specCfg := by
    funext pass salt params; simp [argonKdf, h3, h4, specCfg]
  simp [pbkwSchemeOf, hp, ha, h1, specCfg]

theorem pke_impl_eq_spec (version : Nat) (c : BackendCfg) (hdr : Bytes) (h : Conforms c) :
    pkeSchemeOf version c hdr = pkeSchemeOf version specCfg hdr := by
  obtain ⟨h1, h2, -, -, -, h6⟩ := h
  unfold pkeSchemeOf
  split
  · simp [pkeRsa, h1, h2, specCfg]
  · simp [pkeP384, h1, specCfg]
  · simp [pkeSodium, h6, specCfg]

/-- obligations on `cfgOf` (kept honest by the correspondence on carry nonces / RSA-KEM seals) -/
theorem counters_full_width : ∀ b ∈ Backend.all, (cfgOf b).ctrBits = 128 := by decide
theorem kem_padded : ∀ b ∈ Backend.all, (cfgOf b).kemCtPadded = true := by decide

/-- PIE is bit-exact on every back end -/
theorem pie_all_backends_spec (b : Backend) (hb : b ∈ Backend.all) : pieOf b = pieSym b.version specCfg :=
  pie_impl_eq_spec _ _ (counters_full_width b hb)

/-- the two back ends of a version compute the same PIE wrap for the same nonce and unwrap each
    other's blobs to the same key -/
theorem pie_siblings (ver hdr wk nonce key blob : Bytes) :
    pieWrap (pieOf .v3) ver hdr wk nonce key = pieWrap (pieOf .v3lc) ver hdr wk nonce key ∧
    pieUnwrap (pieOf .v3) 48 ver hdr wk blob = pieUnwrap (pieOf .v3lc) 48 ver hdr wk blob ∧
    pieWrap (pieOf .v4) ver hdr wk nonce key = pieWrap (pieOf .v4s) ver hdr wk nonce key ∧
    pieUnwrap (pieOf .v4) 32 ver hdr wk blob = pieUnwrap (pieOf .v4s) 32 ver hdr wk blob := by
  have e3 : pieOf .v3 = pieOf .v3lc := by
    rw [pie_all_backends_spec .v3 (by decide), pie_all_backends_spec .v3lc (by decide)]; rfl
  have e4 : pieOf .v4 = pieOf .v4s := by
    rw [pie_all_backends_spec .v4 (by decide), pie_all_backends_spec .v4s (by decide)]; rfl
  rw [e3, e4]; exact ⟨rfl, rfl, rfl, rfl⟩

/-- the v3 siblings agree on PBKW for every iteration count ≥ 1 (they differ only on zero) -/
theorem pbkw_siblings_v3 (pass salt params : Bytes) (h : fromBe params ≠ 0) :
    (pbkwOf .v3).kdf pass salt params = (pbkwOf .v3lc).kdf pass salt params := by
  simp [pbkwOf, pbkwSchemeOf, Backend.version, pbkdfKdf, h]

/-- where the v4 siblings differ on PBKW parameters (recorded as a known finding): RustCrypto honours
    the parallelism parameter, libsodium's crypto_pwhash fixes p = 1.  (Both round the memory byte
    count down to whole KiB after the repair of paseto-v2/v4.)  On the common domain they agree: -/
theorem pbkw_siblings_v4 (pass salt params : Bytes)
    (hp : fromBe (params.drop 12) = 1)
    (hlo : fromBe (params.take 8) ≥ 8192) (hhi : fromBe (params.take 8) / 1024 < 2 ^ 22)
    (ht : fromBe ((params.drop 8).take 4) ≥ 1) :
    argonKdf (cfgOf .v4) pass salt params = argonKdf (cfgOf .v4s) pass salt params := by
  have c4 : (cfgOf .v4).argonParallel = true ∧ (cfgOf .v4).argonMemMod1024 = false := by decide
  have c4s : (cfgOf .v4s).argonParallel = false := by decide
  simp only [argonKdf, c4.1, c4.2, c4s, hp, if_true, Bool.false_eq_true, if_false, false_and, ne_eq, not_true_eq_false]
  -- what is left of either side is its range check, which passes on this domain
  rw [if_neg (by omega), if_neg (by omega)]

/-- the PASERK header strings the running code uses (regenerated on every run) are the PASERK documents' -/
theorem paserk_headers_are_spec : Spec.PaserkHeadersConform := by decide

/-! non-vacuity -/
example : Conforms specCfg := by decide
example : ¬ Conforms (cfgOf .v4s) := by decide

end PM.C07
