import PasetoModel.PaserkInst
import PasetoModel.TextLemmas
import PasetoModel.Forms
/-! # C05 — wrap / password-wrap / seal-key then undo returns the same key; fixed lengths -/
namespace PM.C05

/-- PIE, every back end, every wrapping key, nonce and key bytes: unwrap ∘ wrap = id
    (no hypothesis: the concrete instance has the length laws by construction) -/
theorem pie_roundtrip (b : Backend) (ver hdr wk nonce key : Bytes) (hn : nonce.length = 32) :
    pieUnwrap (pieOf b) (pieTagLen b.version) ver hdr wk (pieWrap (pieOf b) ver hdr wk nonce key) = .ok key :=
  PM.pie_roundtrip _ _ (pieSym_laws _ _) ver hdr wk nonce key hn

/-- the PIE blob has the fixed length tag + 32 + key length -/
theorem pie_len (b : Backend) (ver hdr wk nonce key : Bytes) (hn : nonce.length = 32) :
    (pieWrap (pieOf b) ver hdr wk nonce key).length = pieTagLen b.version + 32 + key.length :=
  PM.pie_len _ _ (pieSym_laws _ _) ver hdr wk nonce key hn

/-- PBKW, every back end, every password (any bytes, incl. empty) and every parameter block the
    KDF front end accepts: unwrap ∘ wrap = id -/
theorem pbkw_roundtrip (b : Backend) (ver hdr pass salt params nonce key blob : Bytes)
    (hs : salt.length = (pbkwOf b).saltLen) (hp : params.length = (pbkwOf b).paramLen)
    (hn : nonce.length = (pbkwOf b).nonceLen)
    (h : pbkwWrap (pbkwOf b) ver hdr pass salt params nonce key = .ok blob) :
    pbkwUnwrap (pbkwOf b) ver hdr pass blob = .ok key :=
  PM.pbkw_roundtrip _ (pbkwSchemeOf_laws _ _) ver hdr pass salt params nonce key blob hs hp hn h

theorem pbkw_len (b : Backend) (ver hdr pass salt params nonce key blob : Bytes)
    (hs : salt.length = (pbkwOf b).saltLen) (hp : params.length = (pbkwOf b).paramLen)
    (hn : nonce.length = (pbkwOf b).nonceLen)
    (h : pbkwWrap (pbkwOf b) ver hdr pass salt params nonce key = .ok blob) :
    blob.length = (pbkwOf b).prefixLen + key.length + (pbkwOf b).tagLen :=
  PM.pbkw_len _ (pbkwSchemeOf_laws _ _) ver hdr pass salt params nonce key blob hs hp hn h

/-- wrapping succeeds whenever the KDF front end accepts the parameters -/
theorem pbkw_wrap_ok (b : Backend) (ver hdr pass salt params nonce key k : Bytes)
    (hk : (pbkwOf b).kdf pass salt params = .ok k) :
    (pbkwWrap (pbkwOf b) ver hdr pass salt params nonce key).isOk = true := by
  simp [pbkwWrap, hk, Res.map, Res.bind, Res.isOk]

/-- PKE: for every scheme in which the recipient derives the sender's context (Diffie–Hellman /
    RSA correctness, `PkeLaws`, a hypothesis) and the encapsulation has its fixed length:
    unseal ∘ seal = id and the blob has the prescribed length. -/
theorem pke_roundtrip (S : PkeScheme) (pubOf : Bytes → Bytes) (L : PkeLaws S pubOf) (sk key rnd blob : Bytes)
    (hk : key.length = 32) (h : pkeSeal S (pubOf sk) key rnd = .ok blob) :
    pkeUnseal S sk blob = .ok key ∧ blob.length = S.tagLen + S.encLen + 32 :=
  PM.pke_roundtrip S pubOf L sk key rnd blob hk h

/-- fixed-width big-integer serialisation (RSA-KEM ciphertext: 512 bytes) round-trips … -/
theorem natToBe_roundtrip (n x : Nat) (h : x < 256 ^ n) :
    (natToBe n x).length = n ∧ fromBe (natToBe n x) = x := ⟨natToBe_length n x, fromBe_natToBe n x h⟩

/-- … and the RSA-KEM encapsulation is exactly 512 bytes when the back end pads it (written in minimal bytes, a
    ciphertext value below 256^511 would come out shorter) -/
theorem rsa_kem_len (c : BackendCfg) (hdr pk rnd e ctx : Bytes) (hp : c.kemCtPadded = true)
    (h : (pkeRsa c hdr).encap pk rnd = .ok (e, ctx)) : e.length = 512 := by
  simp only [pkeRsa] at h
  split at h
  · cases h
  · cases h
    simp [hp, natToBe_length]

/-- every back end pads the RSA-KEM ciphertext (obligation on `cfgOf`) -/
theorem kem_ct_padded : ∀ b ∈ Backend.all, (cfgOf b).kemCtPadded = true := by decide

theorem x25519_enc_len (c : BackendCfg) (hdr pk rnd e ctx : Bytes)
    (h : (pkeSodium c hdr).encap pk rnd = .ok (e, ctx)) : e.length = 32 := by
  cases h
  simp [x25519, W.fixLen_length]

/-! ### through the text form: wrap → `to_string` → `parse` → unwrap -/

/-- the text form of a wrapped key is transparent: parsing what `to_string` wrote hands the blob to whatever comes next,
    so each blob-level round trip below lifts to the text form -/
theorem parse_show_bind (h1 h2 blob : Bytes) (f : Bytes → Res Bytes) :
    (parseSimple h1 h2 (showSimple h1 h2 blob)).bind f = f blob := by
  rw [parseSimple_showSimple]; rfl

/-- header + unpadded base64 (⌈4n/3⌉ characters) of the blob -/
theorem show_length (b : Backend) (F : Form) (blob : Bytes) :
    (F.show b blob).length = (F.header b).length + (4 * blob.length + 2) / 3 := by
  simp only [Form.show, showSimple, Form.header, List.length_append, B64.encode_length]

/-- PIE through its PASERK text: serialising the wrapped key, parsing the string back and unwrapping
    returns the key, for every back end, kind, wrapping key, nonce and key bytes -/
theorem pie_text_roundtrip (b : Backend) (k : SKind) (ver hdr wk nonce key : Bytes) (hn : nonce.length = 32) :
    ((Form.pie k).parse b ((Form.pie k).show b (pieWrap (pieOf b) ver hdr wk nonce key))).bind
      (pieUnwrap (pieOf b) (pieTagLen b.version) ver hdr wk) = .ok key :=
  (parse_show_bind _ _ _ _).trans (pie_roundtrip b ver hdr wk nonce key hn)

/-- PBKW through its PASERK text -/
theorem pbkw_text_roundtrip (b : Backend) (k : SKind) (ver hdr pass salt params nonce key blob : Bytes)
    (hs : salt.length = (pbkwOf b).saltLen) (hp : params.length = (pbkwOf b).paramLen)
    (hn : nonce.length = (pbkwOf b).nonceLen)
    (h : pbkwWrap (pbkwOf b) ver hdr pass salt params nonce key = .ok blob) :
    ((Form.pw k).parse b ((Form.pw k).show b blob)).bind (pbkwUnwrap (pbkwOf b) ver hdr pass) = .ok key :=
  (parse_show_bind _ _ _ _).trans (pbkw_roundtrip b ver hdr pass salt params nonce key blob hs hp hn h)

/-- PKE through its PASERK text -/
theorem pke_text_roundtrip (b : Backend) (S : PkeScheme) (pubOf : Bytes → Bytes) (L : PkeLaws S pubOf)
    (sk key rnd blob : Bytes) (hk : key.length = 32) (h : pkeSeal S (pubOf sk) key rnd = .ok blob) :
    (Form.sealK.parse b (Form.sealK.show b blob)).bind (pkeUnseal S sk) = .ok key :=
  (parse_show_bind _ _ _ _).trans (pke_roundtrip S pubOf L sk key rnd blob hk h).1

/-- **The serialised form has the fixed length the format prescribes**: header + unpadded base64 of
    the fixed-length blob (⌈4n/3⌉ characters).  E.g. `k4.local-wrap.pie.` + 128 characters. -/
theorem pie_text_len (b : Backend) (k : SKind) (ver hdr wk nonce key : Bytes) (hn : nonce.length = 32) :
    ((Form.pie k).show b (pieWrap (pieOf b) ver hdr wk nonce key)).length =
      ((Form.pie k).header b).length + (4 * (pieTagLen b.version + 32 + key.length) + 2) / 3 := by
  rw [show_length, pie_len b ver hdr wk nonce key hn]

theorem pbkw_text_len (b : Backend) (k : SKind) (ver hdr pass salt params nonce key blob : Bytes)
    (hs : salt.length = (pbkwOf b).saltLen) (hp : params.length = (pbkwOf b).paramLen)
    (hn : nonce.length = (pbkwOf b).nonceLen)
    (h : pbkwWrap (pbkwOf b) ver hdr pass salt params nonce key = .ok blob) :
    ((Form.pw k).show b blob).length =
      ((Form.pw k).header b).length + (4 * ((pbkwOf b).prefixLen + key.length + (pbkwOf b).tagLen) + 2) / 3 := by
  rw [show_length, pbkw_len b ver hdr pass salt params nonce key blob hs hp hn h]

/-! non-vacuity -/
example : (pbkwOf .v4).prefixLen = 56 ∧ (pbkwOf .v3).prefixLen = 52 := by decide
example : pieTagLen 3 = 48 ∧ pieTagLen 4 = 32 := by decide

end PM.C05
