import PasetoModel.RngStream
import PasetoModel.Props.C01
/-! # C16 — fresh randomness; fail closed
For the getrandom-based back ends every randomised operation is a function of the answers of the
random source; these theorems show (a) any failing draw makes the operation return `CryptoError`
and nothing else, (b) the drawn bytes *are* the nonce / salt / key embedded in the artefact, so
distinct draws give distinct artefacts.  (Partial: that the OS RNG's answers are distinct is its
own property; aws-lc, libsodium and `rsa`'s OsRng cannot be failed from outside.) -/
namespace PM.C16

/-- a failing first draw fails the operation -/
theorem draw_fail (n : Nat) (rest : Src) : draw n (none :: rest) = .err .crypto := rfl

/-- **fail closed, token encryption**: if the source fails, `encrypt` returns `CryptoError` and no token -/
theorem encrypt_fail_closed (b : Backend) (k msg f a : Bytes) (rest : Src) :
    rngEncrypt b k msg f a (none :: rest) = .err .crypto := rfl

theorem pie_fail_closed (b : Backend) (ver hdr wk key : Bytes) (rest : Src) :
    rngPieWrap b ver hdr wk key (none :: rest) = .err .crypto := rfl

/-- PBKW draws twice (salt, nonce): a failure at either index fails the operation -/
theorem pbkw_fail_closed (b : Backend) (ver hdr pass params key salt : Bytes) (rest : Src) :
    rngPbkwWrap b ver hdr pass params key (none :: rest) = .err .crypto ∧
    rngPbkwWrap b ver hdr pass params key (some salt :: none :: rest) = .err .crypto := by
  refine ⟨rfl, ?_⟩
  by_cases hl : salt.length = (pbkwOf b).saltLen <;> simp [rngPbkwWrap, draw, Res.bind, hl]

theorem localkey_fail_closed (rest : Src) : rngLocalKey (none :: rest) = .err .crypto := rfl

theorem secretkey_fail_closed (b : Backend) (rest : Src) : rngSecretKey b (none :: rest) = .err .crypto := by
  unfold rngSecretKey; split <;> rfl

theorem seal_fail_closed (b : Backend) (pk key : Bytes) (rest : Src) :
    rngSeal b pk key (none :: rest) = .err .crypto := by
  unfold rngSeal drawPkeRnd; split <;> rfl

/-- rejection sampling fails closed at *every* iteration: a failing draw after any number of
    rejected candidates still yields `CryptoError` -/
theorem drawScalar_fail_closed (fuel : Nat) (rejected : List Bytes)
    (hrej : ∀ x ∈ rejected, x.length = 48 ∧ (fromBe x = 0 ∨ fromBe x ≥ Prim.P384.n)) (rest : Src) :
    drawScalar fuel (rejected.map some ++ none :: rest) = .err .crypto := by
  induction rejected generalizing fuel with
  | nil => cases fuel <;> rfl
  | cons x xs ih =>
    cases fuel with
    | zero => rfl
    | succ f =>
      obtain ⟨hl, hx⟩ := hrej x (by simp)
      rw [List.map_cons, List.cons_append, drawScalar, draw_eq_ok.mpr ⟨rfl, hl⟩]
      exact (if_pos hx).trans (ih f fun y hy => hrej y (by simp [hy]))

/-- general form: whatever an operation does after its draws, a failure of the source at the first
    unanswered draw is the operation's result -/
theorem bind_fail_closed {α} (n : Nat) (rest : Src) (k : Bytes × Src → Res α) :
    (draw n (none :: rest)).bind k = .err .crypto := rfl

/-! ## the drawn bytes are the embedded nonce -/

/-- every back end: an encrypted token starts with the nonce its scheme derives from the drawn bytes -/
theorem token_starts_with_synth (b : Backend) (k msg f a n tok : Bytes) (rest : Src)
    (h : rngEncrypt b k msg f a (some n :: rest) = .ok tok) : (localScheme b).synth n msg <+: tok := by
  obtain ⟨⟨_, _⟩, hd, hs⟩ := Res.bind_eq_ok.mp h
  obtain ⟨⟨⟩, hl⟩ := draw_eq_ok.mp hd
  dsimp only at hs
  rw [sealLocal_append _ _ _ _ _ _ _ (hl.trans (C01.nonce_draw_is_consumed b b.mem_all))] at hs
  split at hs <;> cases hs
  exact ⟨_, (List.append_assoc ..).symm⟩

/-- v3 / v4 local tokens: the first 32 payload bytes are exactly the drawn nonce -/
theorem token_nonce_is_draw (b : Backend) (hb : b.version = 3 ∨ b.version = 4) (k msg f a n tok : Bytes) (rest : Src)
    (h : rngEncrypt b k msg f a (some n :: rest) = .ok tok) : n <+: tok := by
  have hs : (localScheme b).synth = noSynth := by cases b <;> simp [Backend.version] at hb <;> rfl
  simpa [hs, noSynth] using token_starts_with_synth b k msg f a n tok rest h

/-- v1 / v2: the nonce is a MAC of the message keyed by the drawn bytes; equal nonces for distinct
    draws would be a collision of that MAC (stated, not claimed) -/
theorem synth_nonce_is_mac_of_draw (b : Backend) (hb : b.version = 1 ∨ b.version = 2) (r m : Bytes) :
    (localScheme b).synth r m = if b.version = 1 then v1Synth r m else v2Synth r m := by
  rcases hb with h | h <;> simp [localScheme, localSchemeOf, h, symScheme, aeadScheme]

/-- PIE: the blob is tag ‖ drawn nonce ‖ ciphertext — distinct draws give distinct blobs -/
theorem pie_nonce_is_draw (b : Backend) (ver hdr wk key n : Bytes) (rest : Src) (hn : n.length = 32) :
    ∃ tag c, rngPieWrap b ver hdr wk key (some n :: rest) = .ok (tag ++ n ++ c) ∧ tag.length = pieTagLen b.version :=
  ⟨_, _, by rw [rngPieWrap, draw_eq_ok.mpr ⟨rfl, hn⟩]; rfl, (pieSym_laws b.version (cfgOf b)).mac_len _ _⟩

theorem pie_draws_distinct (b : Backend) (ver hdr wk key n n' : Bytes) (rest rest' : Src)
    (hn : n.length = 32) (hn' : n'.length = 32) (hne : n ≠ n') :
    rngPieWrap b ver hdr wk key (some n :: rest) ≠ rngPieWrap b ver hdr wk key (some n' :: rest') := by
  obtain ⟨t, c, h, ht⟩ := pie_nonce_is_draw b ver hdr wk key n rest hn
  obtain ⟨t', c', h', ht'⟩ := pie_nonce_is_draw b ver hdr wk key n' rest' hn'
  rw [h, h']
  intro e
  have e1 := List.append_inj (Res.ok.inj e) (by simp [ht, ht', hn, hn'])
  exact hne (List.append_inj' e1.1 (hn.trans hn'.symm)).2

/-- PBKW: the blob starts with the drawn salt, then the parameters, then the drawn nonce -/
theorem pbkw_salt_nonce_are_draws (b : Backend) (ver hdr pass params key salt nonce blob : Bytes) (rest : Src)
    (hs : salt.length = (pbkwOf b).saltLen) (hn : nonce.length = (pbkwOf b).nonceLen)
    (h : rngPbkwWrap b ver hdr pass params key (some salt :: some nonce :: rest) = .ok blob) :
    (salt ++ params ++ nonce) <+: blob := by
  simp only [rngPbkwWrap, draw_eq_ok.mpr ⟨rfl, hs⟩, draw_eq_ok.mpr ⟨rfl, hn⟩, Res.bind] at h
  obtain ⟨_, _, rfl⟩ := Res.map_eq_ok.mp h
  exact ⟨_, (List.append_assoc ..).symm⟩

/-- generated local keys are the drawn bytes -/
theorem localkey_is_draw (k : Bytes) (rest : Src) (h : k.length = 32) : rngLocalKey (some k :: rest) = .ok k := by
  simp [rngLocalKey, draw, h, Res.map, Res.bind]

/-- generated Ed25519 secret keys start with the drawn seed: distinct seeds, distinct keys -/
theorem secretkey_is_draw (b : Backend) (hb : b.version = 2 ∨ b.version = 4) (seed : Bytes) (rest : Src)
    (h : seed.length = 32) : rngSecretKey b (some seed :: rest) = .ok (seed ++ edPub seed) := by
  rcases hb with hb | hb <;> simp [rngSecretKey, hb, draw, h, Res.map, Res.bind]

/-! ## the request-level model is independent of how requests are cut

The harness's scripted random source is a byte stream with failure points: how the library chunks its requests is not
something the property constrains.  These theorems tie the request-level `draw` used above to that stream-level source. -/

/-- a successful `draw` takes exactly these bytes from the stream, and leaves the stream of the remaining answers -/
theorem draw_is_stream_take (n : Nat) (s s' : Src) (b : Bytes) (h : draw n s = .ok (b, s')) :
    takeS n (flat s) = .ok (b, flat s') := draw_refines_stream n s s' b h

/-- a failing answer fails the request that reaches it, at stream level too -/
theorem stream_fail_closed (n : Nat) (rest : Src) : takeS (n + 1) (flat (none :: rest)) = .err .crypto := rfl

/-- **chunking independence**: one request of `m + n` bytes = a request of `m` then a request of `n`
    (same bytes, same remaining stream, same failure) -/
theorem requests_are_chunking_independent (m n : Nat) (s : List SByte) :
    takeS (m + n) s = (takeS m s).bind (fun (x, s') => (takeS n s').map (fun (y, s'') => (x ++ y, s''))) :=
  takeS_add m n s

/-- PBKW draws salt then nonce: at stream level that is one request of `saltLen + nonceLen` bytes cut in two, so a
    library that fetched both with a single request would embed the same salt and nonce -/
theorem pbkw_draws_as_one_request (b : Backend) (s s1 s2 : Src) (salt nonce : Bytes)
    (h1 : draw (pbkwOf b).saltLen s = .ok (salt, s1)) (h2 : draw (pbkwOf b).nonceLen s1 = .ok (nonce, s2)) :
    takeS ((pbkwOf b).saltLen + (pbkwOf b).nonceLen) (flat s) = .ok (salt ++ nonce, flat s2) := by
  simp only [takeS_add, draw_refines_stream _ _ _ _ h1, draw_refines_stream _ _ _ _ h2, Res.bind, Res.map]

/-! non-vacuity -/
example : (draw 2 [some [1, 2], none]) = .ok ([1, 2], [none]) := rfl
example : takeS 3 (flat [some [1, 2], some [3, 4], none]) = .ok ([1, 2, 3], [some 4, none]) := rfl
example : drawScalar 3 [some (List.replicate 48 0), none] = .err .crypto := by decide

end PM.C16
