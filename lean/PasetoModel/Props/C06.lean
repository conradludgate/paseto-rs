import PasetoModel.PaserkInst
import PasetoModel.Props.C10
/-! # C06 — wrapped / sealed keys are tamper-evident and header-, key-, password-bound -/
namespace PM.C06

/-- PIE: unwrapping succeeds **iff** the blob is tag ‖ nonce ‖ ciphertext of the prescribed widths
    and the tag equals the MAC, under the key derived from (wrapping key, nonce), of
    version ‖ header ‖ nonce ‖ ciphertext. -/
theorem pieUnwrap_ok_iff (b : Backend) (ver hdr wk blob key : Bytes) :
    pieUnwrap (pieOf b) (pieTagLen b.version) ver hdr wk blob = .ok key ↔
      ∃ t n c, blob = t ++ n ++ c ∧ t.length = pieTagLen b.version ∧ n.length = 32 ∧
        t = (pieOf b).mac ((pieOf b).ak wk n) (ver ++ hdr ++ n ++ c) ∧ key = symEnc (pieOf b) wk n c :=
  PM.pieUnwrap_ok_iff _ _ ver hdr wk blob key

/-- PBKW: … iff prefix ‖ ciphertext ‖ tag, the KDF accepts the embedded parameters, and the tag is
    the MAC (under the key derived from password, salt and parameters) of
    version ‖ header ‖ salt ‖ params ‖ nonce ‖ ciphertext. -/
theorem pbkwUnwrap_ok_iff (b : Backend) (ver hdr pass blob key : Bytes) :
    pbkwUnwrap (pbkwOf b) ver hdr pass blob = .ok key ↔
      ∃ pre c t k, blob = pre ++ c ++ t ∧ pre.length = (pbkwOf b).prefixLen ∧ t.length = (pbkwOf b).tagLen ∧
        (pbkwOf b).kdf pass (pre.take (pbkwOf b).saltLen) ((pre.drop (pbkwOf b).saltLen).take (pbkwOf b).paramLen) = .ok k ∧
        t = (pbkwOf b).mac ((pbkwOf b).ak k) (ver ++ hdr ++ pre ++ c) ∧
        key = pbkwEnc (pbkwOf b) k (pre.drop ((pbkwOf b).saltLen + (pbkwOf b).paramLen)) c :=
  PM.pbkwUnwrap_ok_iff _ ver hdr pass blob key

/-- PKE: … iff tag, encapsulation and a 32-byte encrypted key of exactly the prescribed widths, the
    recipient can decapsulate, and the tag is the MAC — under the key derived from the shared
    secret, the ephemeral key and the recipient key — of header ‖ encapsulation ‖ encrypted key. -/
theorem pkeUnseal_ok_iff (b : Backend) (sk blob key : Bytes) :
    pkeUnseal (pkeOf b) sk blob = .ok key ↔
      ∃ tag e edk ctx, blob = (if (pkeOf b).encLast then tag ++ edk ++ e else tag ++ e ++ edk) ∧
        tag.length = (pkeOf b).tagLen ∧ e.length = (pkeOf b).encLen ∧ edk.length = 32 ∧
        (pkeOf b).decap sk e = .ok ctx ∧ tag = (pkeOf b).mac ((pkeOf b).ak ctx) ((pkeOf b).hdr ++ e ++ edk) ∧
        key = pkeEnc (pkeOf b) ctx edk :=
  PM.pkeUnseal_ok_iff _ sk blob key

/-- sealed keys have one length (`pkeUnseal_ok_length`): two blobs the same recipient accepts are equally long -/
theorem pke_rejects_other_lengths (b : Backend) (sk blob blob' key key' : Bytes)
    (h : pkeUnseal (pkeOf b) sk blob = .ok key) (h' : pkeUnseal (pkeOf b) sk blob' = .ok key') :
    blob'.length = blob.length := by
  rw [pkeUnseal_ok_length _ sk blob key h, pkeUnseal_ok_length _ sk blob' key' h']

/-- the MAC input of wrapped keys is a plain concatenation; it is injective in (header, body)
    because the header set is prefix-free (C10) and the nonce / prefix widths are fixed:
    two (header, nonce, ciphertext) triples with equal-length nonces and headers from a
    prefix-free set give the same MAC input only if they are equal. -/
theorem auth_input_injective (ver h h' n n' c c' : Bytes)
    (hpf : ¬ h <+: h' ∨ h = h') (hpf' : ¬ h' <+: h ∨ h = h') (hn : n.length = n'.length)
    (e : ver ++ h ++ n ++ c = ver ++ h' ++ n' ++ c') : h = h' ∧ n = n' ∧ c = c' := by
  simp only [List.append_assoc, List.append_cancel_left_eq] at e
  have hh : h = h' := by
    rcases List.prefix_or_prefix_of_prefix (List.prefix_append h _) (e ▸ List.prefix_append h' _) with q | q
    · exact hpf.resolve_left (not_not_intro q)
    · exact hpf'.resolve_left (not_not_intro q)
  subst hh
  exact ⟨rfl, List.append_inj (List.append_cancel_left e) hn⟩

/-- relabelling the header (another version, or local ↔ secret) changes the MAC input: the PIE and
    PBKW headers of the table are pairwise prefix-free (instance of C10's table theorem) -/
theorem wrap_headers_prefix_free (b b' : Backend) (k k' : SKind) (hne : (Form.pie k).header b ≠ (Form.pie k').header b') :
    ((Form.pie k).header b).isPrefixOf ((Form.pie k').header b') = false :=
  C10.headers_prefix_free (b, .pie k) (C10.allForms_complete _ _) (b', .pie k') (C10.allForms_complete _ _) hne

/-- a forgery against the MAC -/
def MacForgery (mac : Bytes → Bytes → Bytes) (issued : List (Bytes × Bytes × Bytes)) : Prop :=
  ∃ k x t, mac k x = t ∧ (k, x, t) ∉ issued

/-- reduction: an accepted PIE blob whose (MAC key, MAC input, tag) was not issued is a MAC forgery -/
theorem pie_tamper_reduction (b : Backend) (ver hdr wk blob key : Bytes) (issued : List (Bytes × Bytes × Bytes))
    (hacc : pieUnwrap (pieOf b) (pieTagLen b.version) ver hdr wk blob = .ok key)
    (hnot : ∀ t n c, blob = t ++ n ++ c → t.length = pieTagLen b.version → n.length = 32 →
      ((pieOf b).ak wk n, ver ++ hdr ++ n ++ c, t) ∉ issued) :
    MacForgery (pieOf b).mac issued := by
  obtain ⟨t, n, c, hb, ht, hn, htag, _⟩ := (pieUnwrap_ok_iff b ver hdr wk blob key).mp hacc
  exact ⟨_, _, t, htag.symm, hnot t n c hb ht hn⟩

/-- reduction for PBKW: an accepted password-wrapped blob whose (MAC key, MAC input, tag) was not issued is
    a MAC forgery; the MAC key is derived from the password and from the salt and parameters *inside the blob* -/
theorem pbkw_tamper_reduction (b : Backend) (ver hdr pass blob key : Bytes) (issued : List (Bytes × Bytes × Bytes))
    (hacc : pbkwUnwrap (pbkwOf b) ver hdr pass blob = .ok key)
    (hnot : ∀ pre c t k, blob = pre ++ c ++ t → pre.length = (pbkwOf b).prefixLen → t.length = (pbkwOf b).tagLen →
      (pbkwOf b).kdf pass (pre.take (pbkwOf b).saltLen) ((pre.drop (pbkwOf b).saltLen).take (pbkwOf b).paramLen) = .ok k →
      ((pbkwOf b).ak k, ver ++ hdr ++ pre ++ c, t) ∉ issued) :
    MacForgery (pbkwOf b).mac issued := by
  obtain ⟨pre, c, t, k, hb, hp, ht, hk, htag, _⟩ := (pbkwUnwrap_ok_iff b ver hdr pass blob key).mp hacc
  exact ⟨_, _, t, htag.symm, hnot pre c t k hb hp ht hk⟩

/-- reduction for PKE: an accepted sealed key whose (MAC key, MAC input, tag) was not issued is a MAC forgery;
    the MAC input contains the PASERK header, the encapsulation and the encrypted key -/
theorem pke_tamper_reduction (b : Backend) (sk blob key : Bytes) (issued : List (Bytes × Bytes × Bytes))
    (hacc : pkeUnseal (pkeOf b) sk blob = .ok key)
    (hnot : ∀ tag e edk ctx, blob = (if (pkeOf b).encLast then tag ++ edk ++ e else tag ++ e ++ edk) →
      tag.length = (pkeOf b).tagLen → e.length = (pkeOf b).encLen → edk.length = 32 →
      (pkeOf b).decap sk e = .ok ctx →
      ((pkeOf b).ak ctx, (pkeOf b).hdr ++ e ++ edk, tag) ∉ issued) :
    MacForgery (pkeOf b).mac issued := by
  obtain ⟨tag, e, edk, ctx, hb, ht, he, hd, hdec, htag, _⟩ := (pkeUnseal_ok_iff b sk blob key).mp hacc
  exact ⟨_, _, tag, htag.symm, hnot tag e edk ctx hb ht he hd hdec⟩

/-- the split of a PIE blob into tag ‖ nonce ‖ ciphertext is unique: truncating or extending the blob changes
    the ciphertext (hence the MAC input), never the interpretation of which bytes are the tag -/
theorem pie_split_unique (tl : Nat) (t n c t' n' c' : Bytes)
    (e : t ++ n ++ c = t' ++ n' ++ c') (ht : t.length = tl) (ht' : t'.length = tl)
    (hn : n.length = 32) (hn' : n'.length = 32) : t = t' ∧ n = n' ∧ c = c' := by
  rw [List.append_assoc, List.append_assoc] at e
  obtain ⟨rfl, e'⟩ := List.append_inj e (ht.trans ht'.symm)
  exact ⟨rfl, List.append_inj e' (hn.trans hn'.symm)⟩

/-- unwrap never panics and errs only with InvalidKey / CryptoError (before key decoding) -/
theorem pieUnwrap_total (b : Backend) (ver hdr wk blob : Bytes) :
    (∃ k, pieUnwrap (pieOf b) (pieTagLen b.version) ver hdr wk blob = .ok k) ∨
    pieUnwrap (pieOf b) (pieTagLen b.version) ver hdr wk blob = .err .invalidKey ∨
    pieUnwrap (pieOf b) (pieTagLen b.version) ver hdr wk blob = .err .crypto := by
  unfold pieUnwrap
  split
  · right; left; rfl
  · split
    · right; left; rfl
    · split
      · left; exact ⟨_, rfl⟩
      · right; right; rfl

/-! non-vacuity -/
example : pieUnwrap (pieOf .v4) (pieTagLen 4) [107, 52] [] [] [1, 2, 3] = .err .invalidKey := by
  simp [pieUnwrap, splitFirst, pieTagLen]

end PM.C06
