import PasetoModel.PaserkInst
import PasetoModel.TextLemmas
import PasetoModel.Forms
import PasetoModel.Props.C10
import PasetoModel.SpecHeaders
/-! # C13 — key ids are the spec's hash of the key's PASERK text, stable, domain-separated -/
namespace PM.C13

/-- the id of a (decoded) key: hash of PASERK version ‖ id header ‖ canonical PASERK text -/
def keyId (b : Backend) (k : Kind) (key : Bytes) : Bytes :=
  keyIdOf (hash33 b.version) (Extracted.paserkHeader b) (Extracted.idHeader k)
    (showSimple (Extracted.paserkHeader b) (Extracted.kindHeader k) key)

/-- the id is the PASERK-specified digest (SHA-384 truncated to 33 bytes for k1/k3, BLAKE2b-33 for
    k2/k4) of header ‖ id header ‖ the key's canonical PASERK string -/
theorem id_is_spec (b : Backend) (k : Kind) (key : Bytes) :
    keyId b k key = hash33 b.version
      (Extracted.paserkHeader b ++ Extracted.idHeader k ++
        (Extracted.paserkHeader b ++ Extracted.kindHeader k ++ B64.encode key)) := rfl

/-- an id is always 33 bytes -/
theorem id_len (b : Backend) (k : Kind) (key : Bytes) : (keyId b k key).length = 33 :=
  hash33_length _ _

/-- ids depend only on the PASERK version, the kind headers and the canonical key bytes: the two
    back ends of a version give the same id for the same key -/
theorem id_sibling_eq (k : Kind) (key : Bytes) :
    keyId .v3 k key = keyId .v3lc k key ∧ keyId .v4 k key = keyId .v4s k key := ⟨rfl, rfl⟩

/-- stable across serialise / parse: the id of the key re-parsed from its own text is the same -/
theorem id_stable_text (b : Backend) (k : Kind) (key : Bytes) :
    (parseSimple (Extracted.paserkHeader b) (Extracted.kindHeader k)
      (showSimple (Extracted.paserkHeader b) (Extracted.kindHeader k) key)).map (keyId b k) = .ok (keyId b k key) := by
  rw [parseSimple_showSimple]; rfl

/-- two inputs that decode to the same canonical key (PEM vs DER, compressed vs uncompressed) have
    the same id — ids are computed from the canonical encoding -/
theorem id_of_equal_canonical (b : Backend) (k : Kind) (raw₁ raw₂ key : Bytes)
    (h₁ : keyDecode b k raw₁ = .ok key) (h₂ : keyDecode b k raw₂ = .ok key) :
    (keyDecode b k raw₁).map (keyId b k) = (keyDecode b k raw₂).map (keyId b k) := by rw [h₁, h₂]

/-- domain separation: the hash inputs of ids of different kinds (or versions) differ, because the
    id headers are distinct and prefix-free; so related local / secret / public keys get different
    ids unless the hash collides -/
theorem id_inputs_distinct (b b' : Backend) (k k' : Kind) (key key' : Bytes)
    (hne : (Form.id k).header b ≠ (Form.id k').header b') :
    Extracted.paserkHeader b ++ Extracted.idHeader k ++ showSimple (Extracted.paserkHeader b) (Extracted.kindHeader k) key ≠
    Extracted.paserkHeader b' ++ Extracted.idHeader k' ++ showSimple (Extracted.paserkHeader b') (Extracted.kindHeader k') key' :=
  fun e => hne (C10.header_unique (f := .id k) (f' := .id k') (List.prefix_append _ _) ⟨_, e.symm⟩)

/-- lid / sid / pid headers are pairwise different within a version -/
theorem id_headers_distinct : ∀ b ∈ Backend.all,
    (Form.id .localK).header b ≠ (Form.id .secretK).header b ∧
    (Form.id .localK).header b ≠ (Form.id .publicK).header b ∧
    (Form.id .secretK).header b ≠ (Form.id .publicK).header b := by decide

/-- text form: an id string round-trips and must decode to exactly 33 bytes -/
theorem keyid_text_roundtrip (b : Backend) (k : Kind) (key : Bytes) :
    parseKeyId (Extracted.paserkHeader b) (Extracted.idHeader k)
      (showSimple (Extracted.paserkHeader b) (Extracted.idHeader k) (keyId b k key)) = .ok (keyId b k key) :=
  parseKeyId_eq_ok.mpr ⟨rfl, id_len b k key⟩

theorem keyid_33 (b : Backend) (k : Kind) (s d : Bytes)
    (h : parseKeyId (Extracted.paserkHeader b) (Extracted.idHeader k) s = .ok d) :
    d.length = 33 ∧ showSimple (Extracted.paserkHeader b) (Extracted.idHeader k) d = s :=
  let ⟨e, hl⟩ := parseKeyId_eq_ok.mp h; ⟨hl, e.symm⟩

/-- equality / ordering / hashing of ids are those of the 33 bytes: in the model an id *is* its
    bytes; equal strings ⇔ equal ids -/
theorem keyid_eq_iff_text_eq (b : Backend) (k : Kind) (d₁ d₂ : Bytes) :
    showSimple (Extracted.paserkHeader b) (Extracted.idHeader k) d₁ =
      showSimple (Extracted.paserkHeader b) (Extracted.idHeader k) d₂ ↔ d₁ = d₂ :=
  ⟨fun h => Res.ok.inj (by rw [← parseSimple_eq_ok.mpr h.symm, parseSimple_showSimple]), congrArg _⟩

/-- the id header strings hashed by the running code (regenerated on every run) are the PASERK documents'
    `.lid.` / `.sid.` / `.pid.`, and the PASERK version prefixes are `k1`..`k4` -/
theorem id_headers_are_spec :
    (∀ k ∈ [Kind.localK, .publicK, .secretK, .pkePublic, .pkeSecret], Extracted.idHeader k = Spec.idHeader k) ∧
    (∀ b ∈ Backend.all, Extracted.paserkHeader b = Spec.paserkHeader b) := by decide

/-! non-vacuity -/
example : (Form.id .localK).header .v4 ≠ (Form.id .secretK).header .v4 := by decide

end PM.C13
