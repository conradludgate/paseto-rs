import PasetoModel.Token
import PasetoModel.Asym
import PasetoModel.Extracted.Api
/-! # C12 — nothing from an unauthenticated token is decoded, validated or reported
Generic part over `SealedToken::unseal` (paseto-core/src/tokens.rs); the per-back-end part
("`V::unseal` returns `Ok` only if the MAC / signature verifies") is C02's acceptance
characterisation, applied in the last section of this file. -/
namespace PM.C12

/-- If the version's `unseal` fails, neither the caller's decoder nor the caller's validator is
    invoked, and the very same error is returned. -/
theorem auth_fail_no_events {M : Type} (e : Err) (dec : Bytes → Option M) (val : M → Res Unit) :
    tokenUnseal (.err e) dec val = (.err e, []) := rfl

/-- The outcome of a failing token is independent of the decoder and validator supplied: the error
    cannot depend on what the unauthenticated bytes would decode to. -/
theorem auth_fail_independent {M N : Type} (e : Err) (dec₁ : Bytes → Option M) (val₁ : M → Res Unit)
    (dec₂ : Bytes → Option N) (val₂ : N → Res Unit) :
    (∃ r₁ r₂, (tokenUnseal (.err e) dec₁ val₁) = (.err e, r₁) ∧ (tokenUnseal (.err e) dec₂ val₂) = (.err e, r₂) ∧
      r₁ = [] ∧ r₂ = []) := ⟨[], [], rfl, rfl, rfl, rfl⟩

/-- The trace in closed form: empty unless the version's `unseal` returned `Ok`; then the decoder runs on that
    cleartext, and the validator runs iff the decoder succeeded.  The four theorems below read it off. -/
theorem trace_eq {M : Type} (vU : Res Bytes) (dec : Bytes → Option M) (val : M → Res Unit) :
    (tokenUnseal vU dec val).2 = match vU with
      | .ok ct => .decode ct :: if (dec ct).isSome then [.validate] else []
      | _ => [] := by
  rcases vU with ct | _ | _
  · dsimp only [tokenUnseal]
    rcases dec ct with _ | m
    · rfl
    · dsimp only
      cases val m <;> rfl
  · rfl
  · rfl

/-- The decoder is invoked only on the cleartext the version's `unseal` returned `Ok` with. -/
theorem decode_only_after_unseal_ok {M : Type} (vU : Res Bytes) (dec : Bytes → Option M) (val : M → Res Unit)
    (ct : Bytes) (h : Event.decode ct ∈ (tokenUnseal vU dec val).2) : vU = .ok ct := by
  rw [trace_eq] at h
  cases vU <;> simp at h
  rw [h]

/-- The validator is invoked only after a successful unseal and a successful decode. -/
theorem validate_only_after_decode {M : Type} (vU : Res Bytes) (dec : Bytes → Option M) (val : M → Res Unit)
    (h : Event.validate ∈ (tokenUnseal vU dec val).2) : ∃ ct m, vU = .ok ct ∧ dec ct = some m := by
  rw [trace_eq] at h
  cases vU <;> simp at h
  obtain ⟨m, hm⟩ := Option.isSome_iff_exists.mp h
  exact ⟨_, m, rfl, hm⟩

/-- The only possible traces: nothing; decode; decode then validate — in that order. -/
theorem trace_order {M : Type} (vU : Res Bytes) (dec : Bytes → Option M) (val : M → Res Unit) :
    (tokenUnseal vU dec val).2 = [] ∨
    (∃ ct, (tokenUnseal vU dec val).2 = [.decode ct]) ∨
    (∃ ct, (tokenUnseal vU dec val).2 = [.decode ct, .validate]) := by
  rw [trace_eq]
  cases vU <;> simp
  exact Decidable.em _

/-- Caller code ran at all — so an error came from the caller's decoder or validator — only for an authenticated
    token.  (A `ClaimsError` as such can also be the version's own refusal of an assertion: `C02.noaad_rejects_local`.) -/
theorem later_errors_only_if_authentic {M : Type} (vU : Res Bytes) (dec : Bytes → Option M) (val : M → Res Unit)
    (h : (tokenUnseal vU dec val).2 ≠ []) : ∃ ct, vU = .ok ct := by
  rw [trace_eq] at h
  cases vU <;> simp at h ⊢

/-! ## per back end: caller code runs only on authenticated bytes -/

/-- Local tokens, every back end: if the caller's decoder was invoked at all, the token's tag
    equals the scheme's tag over exactly this key, header, nonce, ciphertext, footer and assertion
    (so a wrong key, any corruption, a wrong assertion or a too-short token never reaches it),
    and the bytes it saw are the decryption of that authenticated ciphertext. -/
theorem decode_implies_authentic_local {M : Type} (b : Backend) (k payload f a ct : Bytes)
    (dec : Bytes → Option M) (val : M → Res Unit)
    (h : Event.decode ct ∈ (tokenUnseal (unsealLocal (localScheme b) (tokHdr b .localP) k payload f a) dec val).2) :
    ∃ n c t, payload = n ++ c ++ t ∧ n.length = (localScheme b).nonceLen ∧ t.length = (localScheme b).tagLen ∧
      t = (localScheme b).tag k (tokHdr b .localP) n c f a ∧ ct = (localScheme b).dec k n c :=
  ((PM.unsealLocal_ok_iff ..).mp (decode_only_after_unseal_ok _ dec val ct h)).2

/-- Public tokens, every back end: the decoder is invoked only on a message whose signature of
    the prescribed length verified over exactly these pieces. -/
theorem decode_implies_authentic_public {M : Type} (b : Backend) (pk payload f a ct : Bytes)
    (dec : Bytes → Option M) (val : M → Res Unit)
    (h : Event.decode ct ∈ (tokenUnseal (unsealPublic (publicScheme b) (tokHdr b .publicP) pk payload f a) dec val).2) :
    ∃ sig, payload = ct ++ sig ∧ sig.length = (publicScheme b).sigLen ∧
      (publicScheme b).check pk (pae ((publicScheme b).pieces pk (tokHdr b .publicP) ct f a)) sig = .valid :=
  ((PM.unsealPublic_ok_iff ..).mp (decode_only_after_unseal_ok _ dec val ct h)).2

/-- The error of a token that fails authentication is a claims (assertion refused), format or
    cryptographic error — decided before and independently of any decoding. -/
theorem auth_error_kinds_local (b : Backend) (k payload f a : Bytes) (e : Err)
    (h : unsealLocal (localScheme b) (tokHdr b .localP) k payload f a = .err e) :
    e = .claims ∨ e = .invalidToken ∨ e = .crypto := by
  simpa [h] using unsealLocal_total (localScheme b) (tokHdr b .localP) k payload f a

theorem auth_error_kinds_public (b : Backend) (pk payload f a : Bytes) (e : Err)
    (h : unsealPublic (publicScheme b) (tokHdr b .publicP) pk payload f a = .err e) :
    e = .claims ∨ e = .invalidToken ∨ e = .crypto := by
  simpa [h] using unsealPublic_total (publicScheme b) (tokHdr b .publicP) pk payload f a

/-- **Accessor clause.**  The public surface of the sealed-token types, re-scanned from the source on every run: the only
    public inherent method that hands out the footer (or raw bytes) of a token that has not been unsealed is the one named
    `unverified_footer`, and no field of `SealedToken` is public.  (The compile probes of C18 tie this to rustc.) -/
theorem unverified_footer_only_by_name :
    Extracted.Api.sealedTokenAccessors = ["unverified_footer"] ∧ Extracted.Api.sealedTokenPubFields = [] := by decide

/-! non-vacuity -/
example : tokenUnseal (M := Nat) (.ok [1]) (fun _ => some 3) (fun _ => .ok ()) = (.ok 3, [.decode [1], .validate]) := rfl
example : tokenUnseal (M := Nat) (.err .crypto) (fun _ => some 3) (fun _ => .ok ()) = (.err .crypto, []) := rfl

end PM.C12
