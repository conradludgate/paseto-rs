import PasetoModel.TextLemmas
import PasetoModel.Forms
/-! # C10 — no cross-acceptance between versions, purposes and kinds
The header table is `Extracted/Headers.lean`, regenerated from the code on every run; the
prefix-freeness obligation is re-decided against it by the kernel. -/
namespace PM.C10
open B64

/-- all (back end, form) pairs: 6 × 17 -/
def allForms : List (Backend × Form) := Backend.all.flatMap (fun b => Form.all.map (fun f => (b, f)))

theorem allForms_complete (b : Backend) (f : Form) : (b, f) ∈ allForms := by
  have hb : b ∈ Backend.all := by cases b <;> decide
  have hf : f ∈ Form.all := by
    cases f with
    | sealK => decide
    | _ k => cases k <;> decide
  exact List.mem_flatMap.2 ⟨b, hb, List.mem_map.2 ⟨f, hf, rfl⟩⟩

/-- key classes that are *meant* to share a text form (stated from the documents, independently of the code's
    constants): `Public`/`PkePublic` and `Secret`/`PkeSecret` -/
def kindClass : Kind → Nat
  | .localK => 0 | .publicK => 1 | .pkePublic => 1 | .secretK => 2 | .pkeSecret => 2

/-- class of a text form: equal classes are the intended aliases -/
def formClass : Form → Nat × Nat
  | .tok p => (0, match p with | .localP => 0 | .publicP => 1)
  | .key k => (1, kindClass k)
  | .id k => (2, kindClass k)
  | .pie k => (3, match k with | .localK => 0 | .secretK => 2)
  | .pw k => (4, match k with | .localK => 0 | .secretK => 2)
  | .sealK => (5, 0)

/-- The one sweep of the 102 × 102 table extracted from the code: entries of the same version and class
    agree in both parts of the header; an entry is a prefix of no entry of another version or class. -/
theorem table_sweep (b b' : Backend) (f f' : Form) :
    if b.version = b'.version ∧ formClass f = formClass f'
    then f.h1 b = f'.h1 b' ∧ f.h2 b = f'.h2 b' else ¬ f.header b <+: f'.header b' := by
  have h : (allForms.all fun x => allForms.all fun y =>
      if x.1.version == y.1.version && formClass x.2 == formClass y.2
      then x.2.h1 x.1 == y.2.h1 y.1 && x.2.h2 x.1 == y.2.h2 y.1
      else !(x.2.header x.1).isPrefixOf (y.2.header y.1)) = true := by decide +kernel
  have := List.all_eq_true.1 (List.all_eq_true.1 h _ (allForms_complete b f)) _ (allForms_complete b' f')
  simpa [← List.isPrefixOf_iff_prefix] using this

theorem header_prefix_eq {b b' : Backend} {f f' : Form} (h : f.header b <+: f'.header b') :
    f.header b = f'.header b' := by
  have := table_sweep b b' f f'
  split at this
  · simp [Form.header, this]
  · exact absurd h this

/-- prefix-freeness as it is used: no string starts with two different headers -/
theorem header_unique {b b' : Backend} {f f' : Form} {s : Bytes} (p : f.header b <+: s)
    (p' : f'.header b' <+: s) : f.header b = f'.header b' := by
  rcases List.prefix_or_prefix_of_prefix p p' with q | q
  · exact header_prefix_eq q
  · exact (header_prefix_eq q).symm

/-- **The only aliases are the intended ones.**  Over the whole table extracted from the running code: two
    (back end, form) pairs have the same full header exactly when they have the same protocol version
    and the same form class.  In particular no id / key / wrap form of one kind shares a header with another
    kind, purpose or version. -/
theorem aliases_exactly_intended :
    ∀ x ∈ allForms, ∀ y ∈ allForms,
      (x.2.header x.1 = y.2.header y.1 ↔ (x.1.version = y.1.version ∧ formClass x.2 = formClass y.2)) := by
  intro x _ y _
  have := table_sweep x.1 y.1 x.2 y.2
  split at this
  · simp [*, Form.header]
  · exact iff_of_false (fun h => this (h ▸ List.prefix_refl _)) ‹_›

/-- headers are equal exactly for the intended aliases: the same PASERK/PASETO version string and
    the same kind string (sibling back ends; `Secret`/`PkeSecret`; `Public`/`PkePublic`) -/
theorem header_eq_iff :
    ∀ x ∈ allForms, ∀ y ∈ allForms,
      (x.2.header x.1 = y.2.header y.1 ↔ (x.2.h1 x.1 = y.2.h1 y.1 ∧ x.2.h2 x.1 = y.2.h2 y.1)) := by
  refine fun x hx y hy => ⟨fun h => ?_, fun h => by simp [Form.header, h]⟩
  have := table_sweep x.1 y.1 x.2 y.2
  rwa [if_pos ((aliases_exactly_intended x hx y hy).1 h)] at this

/-- The full text headers are pairwise prefix-free: whenever two differ, neither is a prefix of
    the other.  Decided over the whole 102 × 102 table extracted from the code. -/
theorem headers_prefix_free :
    ∀ x ∈ allForms, ∀ y ∈ allForms, x.2.header x.1 ≠ y.2.header y.1 →
      (x.2.header x.1).isPrefixOf (y.2.header y.1) = false := by
  intro x _ y _ hne
  rw [← Bool.not_eq_true, List.isPrefixOf_iff_prefix]
  exact mt header_prefix_eq hne

/-- distinct versions have distinct headers (tokens and PASERK) -/
theorem versions_distinct : ∀ b ∈ Backend.all, ∀ b' ∈ Backend.all, b.version ≠ b'.version →
    Extracted.versionHeader b ≠ Extracted.versionHeader b' ∧
    Extracted.paserkHeader b ≠ Extracted.paserkHeader b' := by decide +kernel

/-- whatever a parser accepts starts with that parser's full header -/
theorem parse_ok_prefix (b : Backend) (f : Form) (s d : Bytes) (h : f.parse b s = .ok d) :
    f.header b <+: s := by
  cases f with
  | id k => exact ⟨encode d, (parseKeyId_eq_ok.mp h).1.symm⟩
  | tok p =>
    obtain ⟨t, ht, -⟩ := Res.map_eq_ok.mp h
    simpa [Form.header, Form.h1, Form.h2, jsonSuffix] using parseToken_ok_prefix ht
  | _ => exact ⟨encode d, (parseSimple_eq_ok.mp h).symm⟩

/-- **No cross-acceptance.** A value serialised as form `f` of back end `b` (any data, for tokens
    any footer) is rejected by the parser of every form/back end whose header differs. -/
theorem cross_reject (b b' : Backend) (f f' : Form) (hne : f.header b ≠ f'.header b') (body : Bytes) :
    (f'.parse b' (f.header b ++ body)).isOk = false := by
  cases hp : f'.parse b' (f.header b ++ body) with
  | ok d => exact absurd (header_unique (List.prefix_append _ body) (parse_ok_prefix b' f' _ d hp)) hne
  | _ => rfl

/-- instance: what `Display` produces for a PASERK form is rejected by every other parser -/
theorem cross_reject_simple (b b' : Backend) (f f' : Form) (hne : f.header b ≠ f'.header b') (d : Bytes) :
    (f'.parse b' (showSimple (f.h1 b) (f.h2 b) d)).isOk = false := by
  have := cross_reject b b' f f' hne (encode d)
  simpa [showSimple, Form.header] using this

/-- instance: what `Display` produces for a token is rejected by every other parser -/
theorem cross_reject_token (b b' : Backend) (p : Purpose) (f' : Form)
    (hne : (Form.tok p).header b ≠ f'.header b') (t : SealedTok) :
    (f'.parse b' (showToken (Extracted.versionHeader b) jsonSuffix (Extracted.kindHeader p.toKind) t)).isOk = false := by
  have := cross_reject b b' (.tok p) f' hne
    (encode t.payload ++ (if t.footer.isEmpty then [] else dot :: encode t.footer))
  simpa [showToken, Form.header, Form.h1, Form.h2, jsonSuffix, List.append_assoc] using this

/-! non-vacuity: concrete differing header pairs exist, e.g. k3.local vs k4.local, v4.local vs k4.local -/
example : (Form.key .localK).header .v3 ≠ (Form.key .localK).header .v4 := by decide
example : (Form.tok .localP).header .v4 ≠ (Form.key .localK).header .v4 := by decide
example : (Form.key .secretK).header .v4 = (Form.key .pkeSecret).header .v4s := by decide
example : ((Form.key .localK).parse .v4 ((Form.key .localK).header .v4 ++ [81, 81])).isOk = true := by decide +kernel

end PM.C10
