import PasetoModel.Asym
import PasetoModel.Token
import PasetoModel.TextLemmas
import PasetoModel.Forms
/-! # C01 — seal ∘ serialise ∘ parse ∘ unseal = id, including the library's own nonce path -/
namespace PM.C01

/-- Local tokens, every back end, every key/payload/footer/assertion and every nonce value of the
    right length: sealing succeeds and unsealing the result returns the message.
    (No hypothesis on the primitives: the concrete instance satisfies the length laws by construction.) -/
theorem local_roundtrip (b : Backend) (k n0 m f a : Bytes)
    (hn : n0.length = (localScheme b).nonceLen) (ha : (localScheme b).hasAad = true ∨ a = []) :
    ∃ tok, sealLocal (localScheme b) (tokHdr b .localP) k (n0 ++ m) f a = .ok tok ∧
           unsealLocal (localScheme b) (tokHdr b .localP) k tok f a = .ok m :=
  PM.local_roundtrip _ (localSchemeOf_laws _ _) _ k n0 m f a hn ha

/-- The nonce the library draws has exactly the length sealing consumes — re-decided against the
    lengths re-read from the running code (`V::nonce()?.len()`), for all six back ends. -/
theorem nonce_draw_is_consumed : ∀ b ∈ Backend.all, (cfgOf b).nonceDraw = (localScheme b).nonceLen := by
  decide

/-- `V::nonce()` for public tokens is empty on every back end (the whole payload is the message). -/
theorem public_nonce_empty : ∀ b ∈ Backend.all, Extracted.nonceDrawPublic b = 0 := by decide

/-- The receiving half of both pipelines: a payload that the version's `unseal` opens to the encoded claims comes
    back through `Display`, `FromStr` and `unseal` (= unseal, decode, validate) as the claims and the footer. -/
theorem pipeline_receive {M : Type} (b : Backend) (kind : Kind) (vUnseal : Bytes → Bytes → Res Bytes) (tok f : Bytes)
    (enc : M → Bytes) (dec : Bytes → Option M) (claims : M) (val : M → Res Unit)
    (hcodec : dec (enc claims) = some claims) (hval : val claims = .ok ()) (hu : vUnseal tok f = .ok (enc claims)) :
    ∃ t, parseToken (Extracted.versionHeader b) jsonSuffix (Extracted.kindHeader kind) FooterKind.vec.ok
           (showToken (Extracted.versionHeader b) jsonSuffix (Extracted.kindHeader kind) ⟨tok, f⟩) = .ok t ∧
         t.footer = f ∧ (tokenUnseal (vUnseal t.payload t.footer) dec val).1 = .ok claims :=
  ⟨⟨tok, f⟩, parseToken_showToken _ _ _ _ ⟨tok, f⟩ rfl, rfl, by simp [tokenUnseal, hu, hcodec, hval]⟩

/-- **The whole pipeline with the library's own nonce**, local tokens: `seal` (= draw nonce, encode
    claims, seal), `Display`, `FromStr`, `unseal` (= unseal, decode, validate) returns the claims
    and the footer, for any payload codec that round-trips and any accepting validator. -/
theorem pipeline_roundtrip_local {M : Type} (b : Backend) (hb : b ∈ Backend.all) (k draw f a : Bytes)
    (enc : M → Bytes) (dec : Bytes → Option M) (claims : M) (val : M → Res Unit)
    (hcodec : dec (enc claims) = some claims) (hval : val claims = .ok ())
    (hdraw : draw.length = (cfgOf b).nonceDraw)
    (ha : (localScheme b).hasAad = true ∨ a = []) :
    ∃ payload, tokenSeal (.ok draw) (some f) (some (enc claims))
                 (fun p f => sealLocal (localScheme b) (tokHdr b .localP) k p f a) = .ok (payload, f) ∧
      ∃ t, parseToken (Extracted.versionHeader b) jsonSuffix (Extracted.kindHeader .localK) FooterKind.vec.ok
             (showToken (Extracted.versionHeader b) jsonSuffix (Extracted.kindHeader .localK) ⟨payload, f⟩) = .ok t ∧
           t.footer = f ∧
           (tokenUnseal (unsealLocal (localScheme b) (tokHdr b .localP) k t.payload t.footer a) dec val).1 = .ok claims := by
  obtain ⟨tok, hs, hu⟩ := local_roundtrip b k draw (enc claims) f a (hdraw.trans (nonce_draw_is_consumed b hb)) ha
  exact ⟨tok, Res.map_eq_ok.mpr ⟨tok, hs, rfl⟩,
    pipeline_receive b .localK (fun p f => unsealLocal _ _ k p f a) tok f enc dec claims val hcodec hval hu⟩

/-- Public tokens: for every scheme in which a key's signatures verify under its public key
    (`PublicLaws`: the correctness of the signature primitive, a hypothesis), whatever sealing
    returns is accepted with the same message. -/
theorem public_roundtrip (S : PublicScheme) (L : PublicLaws S) (hdr : List Bytes) (sk msg f a rnd tok : Bytes)
    (h : sealPublic S hdr sk msg f a rnd = .ok tok) :
    unsealPublic S hdr (S.pubOf sk) tok f a = .ok msg :=
  PM.public_roundtrip S L hdr sk msg f a rnd tok h

/-- **The whole pipeline for public tokens**: `sign` (= encode claims, sign; the nonce draw is empty),
    `Display`, `FromStr`, `verify` (= verify, decode, validate) returns the claims and the footer — for every
    scheme whose signatures verify (`PublicLaws`), any codec that round-trips and any accepting validator. -/
theorem pipeline_roundtrip_public {M : Type} (S : PublicScheme) (L : PublicLaws S) (b : Backend)
    (hdr : List Bytes) (sk f a rnd payload : Bytes)
    (enc : M → Bytes) (dec : Bytes → Option M) (claims : M) (val : M → Res Unit)
    (hcodec : dec (enc claims) = some claims) (hval : val claims = .ok ())
    (hs : tokenSeal (.ok []) (some f) (some (enc claims)) (fun p f => sealPublic S hdr sk p f a rnd) = .ok (payload, f)) :
    ∃ t, parseToken (Extracted.versionHeader b) jsonSuffix (Extracted.kindHeader .publicK) FooterKind.vec.ok
           (showToken (Extracted.versionHeader b) jsonSuffix (Extracted.kindHeader .publicK) ⟨payload, f⟩) = .ok t ∧
         t.footer = f ∧
         (tokenUnseal (unsealPublic S hdr (S.pubOf sk) t.payload t.footer a) dec val).1 = .ok claims := by
  obtain ⟨tok, hsp, ⟨⟩⟩ := Res.map_eq_ok.mp hs
  exact pipeline_receive b .publicK (fun p f => unsealPublic S hdr (S.pubOf sk) p f a) _ f enc dec claims val hcodec hval
    (PM.public_roundtrip S L hdr sk _ f a rnd _ hsp)

/-- fixed-width signature serialisation: r‖s is always 96 bytes and parses back, when padded -/
theorem serSig_fixed (r s : Nat) (hr : r < 256 ^ 48) (hs : s < 256 ^ 48) :
    ∃ sig, serSig true r s = .ok sig ∧ sig.length = 96 ∧
      fromBe (sig.take 48) = r ∧ fromBe (sig.drop 48) = s := by
  refine ⟨_, rfl, by simp [natToBe_length], ?_, ?_⟩
  · rw [List.take_left' (natToBe_length _ _)]; exact fromBe_natToBe 48 r hr
  · rw [List.drop_left' (natToBe_length _ _)]; exact fromBe_natToBe 48 s hs

theorem serSig_len (p : Bool) (r s : Nat) (sig : Bytes) (h : serSig p r s = .ok sig) : sig.length = 96 := by
  cases (guard_ok_iff.mp h).2
  simp [natToBe_length]

/-- without padding, serialisation fails exactly for values with a leading zero byte -/
theorem serSig_unpadded_fails_iff (r s : Nat) :
    (serSig false r s).isOk = false ↔ (r < 2 ^ 376 ∨ s < 2 ^ 376) := by
  unfold serSig
  by_cases h1 : r < 2 ^ 376 <;> by_cases h2 : s < 2 ^ 376 <;> simp [h1, h2, Res.isOk]

/-- every back end writes signatures fixed-width (re-decided against `cfgOf`) -/
theorem signatures_padded : ∀ b ∈ Backend.all, (cfgOf b).sigPadded = true := by decide

/-- what each concrete signer returns has its scheme's `sigLen` (the `sign_len` law of `PublicLaws`) -/
theorem p384_sign_len (c : BackendCfg) (det strict : Bool) (sk m rnd sig : Bytes)
    (h : (p384Scheme c det strict).sign sk m rnd = .ok sig) : sig.length = 96 := by
  simp only [p384Scheme] at h
  split at h
  · cases h
  · exact serSig_len _ _ _ _ h

theorem ed_sign_len (c : BackendCfg) (aad : Bool) (sk m rnd sig : Bytes)
    (h : (edScheme c aad).sign sk m rnd = .ok sig) : sig.length = 64 := by
  cases h
  simp [edSignWith, W.fixLen_length]

theorem rsa_sign_len (c : BackendCfg) (sk m rnd sig : Bytes)
    (h : (rsaScheme c).sign sk m rnd = .ok sig) : sig.length = 256 := by
  simp only [rsaScheme] at h
  split at h <;> cases h
  simp [W.fixLen_length]

/-- text form of tokens round-trips (from C09), restated for the pipeline -/
theorem token_text_roundtrip (b : Backend) (p : Purpose) (t : SealedTok) :
    parseToken (Extracted.versionHeader b) jsonSuffix (Extracted.kindHeader p.toKind) FooterKind.vec.ok
      (showToken (Extracted.versionHeader b) jsonSuffix (Extracted.kindHeader p.toKind) t) = .ok t :=
  parseToken_showToken _ _ _ _ t rfl

/-! non-vacuity -/
example : (localScheme .v4).nonceLen = 32 ∧ (localScheme .v2).nonceLen = 24 := by decide
example : (serSig false (2 ^ 383) 5).isOk = false := by decide

end PM.C01
