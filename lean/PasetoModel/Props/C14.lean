import PasetoModel.JsonParse
import PasetoModel.TsRead
import PasetoModel.ClaimsLemmas
/-! # C14 — RegisteredClaims / Json wire form -/
namespace PM.C14

/-- Encoding any claims value and decoding it yields the same value (every combination of absent /
    present fields; strings byte-for-byte; timestamps exactly). -/
theorem claims_roundtrip (fmt : Int → Bytes) (c : Claims) :
    claimsDecode (some (claimsEncode fmt c)) = .ok c := by
  have : Fld.all.foldl (fun a f => a.set f (c.get f)) Acc.empty = c.get := funext fun g => by cases g <;> rfl
  rw [claimsDecode, claimsEncode_eq, decodeGo_encode fmt c Fld.all Acc.empty (by decide) (fun _ _ => rfl), this]
  simp [Res.map, Res.bind, toClaims_get]

/-- The wire form has a member for a claim iff the claim is present (absent claims are omitted,
    never written as null), and each value is a string. -/
theorem wire_form (fmt : Int → Bytes) (c : Claims) (k : Bytes) (v : JVal) :
    (k, v) ∈ claimsEncode fmt c ↔
      ∃ f, k = f.name ∧ ((∃ b, c.get f = some (.s b) ∧ v = .str b none) ∨
                          (∃ n, c.get f = some (.t n) ∧ v = .str (fmt n) (some n))) := by
  simp only [claimsEncode_eq, List.mem_filterMap, mem_all, true_and, Option.map_eq_some_iff, Prod.mk.injEq]
  refine exists_congr fun f => ?_
  constructor
  · rintro ⟨x, hx, rfl, rfl⟩
    cases x <;> simp [hx, jOf]
  · rintro ⟨rfl, ⟨_, h, rfl⟩ | ⟨_, h, rfl⟩⟩ <;> exact ⟨_, h, rfl, rfl⟩

theorem absent_stays_absent (fmt : Int → Bytes) (c : Claims) (f : Fld) (h : c.get f = none) :
    ∀ v, (f.name, v) ∉ claimsEncode fmt c := by
  intro v hv
  obtain ⟨g, hg, hh⟩ := (wire_form ..).1 hv
  cases name_injective hg
  rcases hh with ⟨_, hb, _⟩ | ⟨_, hb, _⟩ <;> cases h.symm.trans hb

/-- members appear in the fixed order iss, sub, aud, exp, nbf, iat, jti, each at most once -/
theorem wire_order (fmt : Int → Bytes) (c : Claims) :
    ((claimsEncode fmt c).map Prod.fst).Sublist (Fld.all.map Fld.name) := by
  rw [claimsEncode_eq, List.map_filterMap]
  refine filterMap_sublist_map (fun f k h => ?_) _
  cases hv : c.get f <;> simp_all

/-- Decoding ignores unknown members. -/
theorem ignores_unknown (l : Members) (acc : Acc) :
    decodeGo (l.filter (fun m => (fieldOf m.1).isSome)) acc = decodeGo l acc := by
  induction l generalizing acc with
  | nil => rfl
  | cons m rest ih =>
    cases hf : fieldOf m.1 with
    | none => rw [List.filter_cons_of_neg (by simp [hf]), decodeGo_cons, stepO_none hf]; exact ih acc
    | some f =>
      rw [List.filter_cons_of_pos (by simp [hf]), decodeGo_cons, decodeGo_cons]
      cases stepO m acc <;> simp [ih]

/-- registered keys occur at most once -/
def NoDupRegistered (l : Members) : Prop := (l.filterMap (fun m => fieldOf m.1)).Nodup

/-- **Member order is irrelevant**: any permutation of an object without duplicated registered
    claims decodes to the same result (same claims, or the same error). -/
theorem order_irrelevant (l l' : Members) (hp : l.Perm l') (hn : NoDupRegistered l) :
    claimsDecode (some l) = claimsDecode (some l') := by
  suffices h : ∀ acc, decodeGo l acc = decodeGo l' acc by simp [claimsDecode, h]
  induction hp with
  | nil => exact fun _ => rfl
  | cons x _ ih =>
    intro acc
    simp only [decodeGo_cons]
    cases stepO x acc with
    | none => rfl
    | some a => exact ih (hn.sublist ((List.sublist_cons_self x _).filterMap _)) a
  | swap x y rest =>
    refine fun acc => swap_ok _ _ _ acc fun f hy hx => ?_
    simp [NoDupRegistered, hx, hy] at hn
  | trans h1 _ ih1 ih2 => exact fun acc => (ih1 hn acc).trans (ih2 ((h1.filterMap _).nodup hn) acc)

/-- **Agreement with a generic JSON parser.**  Whenever decoding succeeds, every registered claim
    has exactly the value a generic (last-duplicate-wins) parser reads for that member: absent or
    `null` ↦ no claim, a string ↦ that string / that timestamp. -/
theorem agrees_with_generic (l : Members) (c : Claims) (h : claimsDecode (some l) = .ok c) (f : Fld) :
    c.get f = optOfJ f (lookupLast l f.name) := by
  obtain ⟨a, ha, rfl⟩ := Res.map_eq_ok.1 h
  have hl : a f = optOfJ f (lookupLast l f.name) := by
    rw [decodeGo_lookupLast l Acc.empty a ha f]
    cases lookupLast l f.name <;> rfl
  have ht : typed f (optOfJ f (lookupLast l f.name)) := by
    cases lookupLast l f.name with
    | none => trivial
    | some v => exact convO_typed f v
  rw [get_toClaims a f (hl ▸ ht), hl]

/-- `Json<T>` is transparent over serde_json as payload and as footer, except that an empty footer
    is an error -/
theorem json_wrappers_transparent {α} (ser : α → Bytes) (de : Bytes → Option α) (x : α) (b : Bytes) :
    jsonPayloadEncode ser x = ser x ∧ jsonPayloadDecode de b = de b ∧
    jsonFooterEncode ser x = ser x ∧ (b ≠ [] → jsonFooterDecode de b = de b) := by
  refine ⟨rfl, rfl, rfl, ?_⟩
  intro h; cases b with | nil => exact absurd rfl h | cons _ _ => rfl

theorem empty_footer_err {α} (de : Bytes → Option α) : jsonFooterDecode de [] = none := rfl

/-- the top-level value must be an object -/
theorem non_object_rejected : claimsDecode none = .err .payload := rfl

/-! non-vacuity -/
example : claimsDecode (some [(Fld.iss.name, .null), (Fld.iss.name, .str [120] none)]) =
    .ok { iss := some [120] } := by decide
example : claimsDecode (some [(Fld.iss.name, .str [120] none), (Fld.iss.name, .null)]) = .err .payload := by decide
example : claimsDecode (some [([1], .arr), (Fld.exp.name, .str [50] (some 7))]) = .ok { exp := some 7 } := by decide
example : NoDupRegistered [([1], .arr), (Fld.exp.name, .str [50] (some 7)), ([1], .null)] := by
  simp [NoDupRegistered, fieldOf, Fld.name]

/-! ## the wire form as *text* (`Json.lean`): what `RegisteredClaims::encode` writes, byte for byte

`claimsJson` is compared byte-exactly with the library on every run (`claims.json` stream: every absent / present
combination, strings with escapes, NUL, astral characters and long runs, timestamps over jiff's whole range). -/

/-- the payload is one compact JSON object: `{`, the present members in the fixed order `iss sub aud exp nbf iat jti`
    separated by `,`, `}` — absent claims contribute nothing -/
theorem wire_is_compact_object (c : Claims) :
    Json.claimsJson c = [123] ++ Json.joinComma ((claimsEncode Json.fmtTs c).map Json.memberText) ++ [125] := rfl

/-- an empty claim set is written as `{}` -/
theorem wire_empty : Json.claimsJson {} = [123, 125] := by decide

/-- string claims are written so that they can be read back byte for byte: the escaping is decodable … -/
theorem wire_strings_decodable (s : Bytes) : Json.unescape (Json.escape s) = some s := Json.unescape_escape s

/-- … and leaves no raw control byte inside the literal (so the literal ends where the text says it ends) -/
theorem wire_strings_no_control (s : Bytes) : ∀ ch ∈ Json.escape s, 32 ≤ ch.toNat := Json.escape_no_control s

/-- timestamps are written in the RFC 3339 character set, in UTC (`…Z`) -/
theorem wire_timestamps_rfc3339_shape (ns : Int) :
    (∀ ch ∈ Json.fmtTs ns, Json.tsChar ch) ∧ ∃ body, Json.fmtTs ns = body ++ [90] :=
  ⟨Json.fmtTs_chars ns, Json.fmtTs_ends_Z ns⟩

/-- the value bytes of a member (claims are only ever written as strings) -/
def strOf : JVal → Bytes
  | .str s _ => s
  | _ => []

theorem memberText_jOf (fmt : Int → Bytes) (k : Bytes) (x : FVal) :
    Json.memberText (k, jOf fmt x) = Json.strMemberText (k, strOf (jOf fmt x)) := by
  cases x <;> rfl

/-- **the wire text is unambiguous**: reading the bytes `RegisteredClaims::encode` writes — with a reader for compact
    objects of string members — gives back exactly the members that were written: every present claim once, in order,
    strings byte for byte, timestamps as their RFC 3339 text; nothing for absent claims -/
theorem wire_text_reads_back (c : Claims) :
    Json.readObject (Json.claimsJson c) =
      some ((claimsEncode Json.fmtTs c).map (fun m => (m.1, strOf m.2))) := by
  unfold Json.claimsJson Json.objectText
  rw [← Json.readObject_text ((claimsEncode Json.fmtTs c).map fun m => (m.1, strOf m.2)), claimsEncode_eq]
  simp only [List.map_filterMap, Option.map_map, Function.comp_def, memberText_jOf]

/-- **distinct days are written as distinct dates** (every day number, no bound): the calendar step of the RFC 3339 text
    (`Json.civil`, compared byte for byte with jiff's output through `claims.json`) has Hinnant's `days_from_civil` as a
    left inverse, so the year-month-day of a timestamp determines its day -/
theorem date_determines_day (z : Int) :
    Json.daysFromCivil (Json.civil z).1 (Json.civil z).2.1 (Json.civil z).2.2 = z :=
  Json.daysFromCivil_civil z

theorem date_injective (z₁ z₂ : Int) (h : Json.civil z₁ = Json.civil z₂) : z₁ = z₂ :=
  Json.civil_injective z₁ z₂ h

/-- the month and day written are in range for every day number (so two digits each always suffice) -/
theorem date_fields_in_range (z : Int) :
    1 ≤ (Json.civil z).2.1 ∧ (Json.civil z).2.1 ≤ 12 ∧ 1 ≤ (Json.civil z).2.2 ∧ (Json.civil z).2.2 ≤ 31 :=
  Json.civil_in_range z

/-- **the numbers in the timestamp text determine the instant**, for every `ns : Int`: `fmtTs` is a rendering of
    (year, month, day, hour, minute, second, nanosecond) and that tuple is injective in `ns` -/
theorem timestamp_fields_determine_instant (a b : Int) (h : Json.tsFields a = Json.tsFields b) : a = b :=
  Json.tsFields_injective a b h

theorem timestamp_text_is_fields (ns : Int) : Json.fmtTs ns = Json.renderFields (Json.tsFields ns) :=
  Json.fmtTs_eq_render ns

/-- every fixed-width digit field reads back as the number written, whenever the number fits the width -/
theorem digit_field_reads_back (w n : Nat) (h : n < 10 ^ w) :
    Json.digitsVal (Json.pad w n) = n ∧ (Json.pad w n).length = w :=
  ⟨Json.digitsVal_pad w n h, Json.pad_length w n⟩

/-! non-vacuity -/
example : Json.tsFields 1000000000123456789 = ((2001, 9, 9), 1, 46, 40, 123456789) ∧
    Json.digitsVal (Json.pad 4 2001) = 2001 := by decide +kernel

/-- the fraction reads back for every non-zero nanosecond count: the digits after the point (at most nine, trailing
    zeros removed), padded on the right with `0` to nine, denote exactly the nanoseconds written -/
theorem fraction_reads_back (f : Nat) (h0 : 0 < f) (h : f < 10 ^ 9) :
    ∃ ds, Json.fracDigits f = 46 :: ds ∧ ds.length ≤ 9 ∧
      Json.digitsVal (ds ++ List.replicate (9 - ds.length) 48) = f :=
  Json.frac_reads_back f h0 h

example : Json.fracDigits 120000000 = [46, 49, 50] := by decide +kernel

/-- **the timestamp text reads back to the instant written** (`…_partial`: every instant whose year is 0 … 9999, to the
    nanosecond; not covered: years below 0, which `fmtTs` writes with a sign and six digits — their fields are covered by
    `timestamp_fields_determine_instant` and `digit_field_reads_back` but not by this fixed-offset reader).  `Json.readTs`
    slices the text at RFC 3339's fixed offsets, restores the stripped zeros of the fraction and applies Hinnant's
    `days_from_civil`. -/
theorem timestamp_text_reads_back_partial (ns : Int)
    (hy0 : 0 ≤ (Json.civil ((ns.fdiv 1000000000).fdiv 86400)).1)
    (hy1 : (Json.civil ((ns.fdiv 1000000000).fdiv 86400)).1 < 10000) :
    Json.readTs (Json.fmtTs ns) = ns :=
  Json.readTs_fmtTs ns hy0 hy1

/-! non-vacuity: the hypotheses hold for 2001-09-09T01:46:40.123456789Z and the reader returns the instant -/
example : 0 ≤ (Json.civil (((1000000000123456789 : Int).fdiv 1000000000).fdiv 86400)).1 ∧
    (Json.civil (((1000000000123456789 : Int).fdiv 1000000000).fdiv 86400)).1 < 10000 ∧
    Json.readTs (Json.fmtTs 1000000000123456789) = 1000000000123456789 := by decide +kernel

/-- **the timestamp text reads back to the instant written**, to the nanosecond, for every instant whose year is
    −999999 … 9999 — a superset of jiff's `Timestamp` range (years −9999 … 9999), so for every timestamp the library can
    hold.  `Json.readTsAny` takes the six-digit year after a leading `-`, the four-digit year otherwise. -/
theorem timestamp_text_reads_back (ns : Int)
    (hy0 : -1000000 < (Json.civil ((ns.fdiv 1000000000).fdiv 86400)).1)
    (hy1 : (Json.civil ((ns.fdiv 1000000000).fdiv 86400)).1 < 10000) :
    Json.readTsAny (Json.fmtTs ns) = ns :=
  Json.readTsAny_fmtTs ns hy0 hy1

/-- hence the text is injective on that range: two instants written the same are the same instant -/
theorem timestamp_text_injective (a b : Int)
    (ha0 : -1000000 < (Json.civil ((a.fdiv 1000000000).fdiv 86400)).1)
    (ha1 : (Json.civil ((a.fdiv 1000000000).fdiv 86400)).1 < 10000)
    (hb0 : -1000000 < (Json.civil ((b.fdiv 1000000000).fdiv 86400)).1)
    (hb1 : (Json.civil ((b.fdiv 1000000000).fdiv 86400)).1 < 10000)
    (h : Json.fmtTs a = Json.fmtTs b) : a = b := by
  rw [← Json.readTsAny_fmtTs a ha0 ha1, ← Json.readTsAny_fmtTs b hb0 hb1, h]

/-! non-vacuity: an instant in a year below 0, with a fraction -/
example : (Json.civil (((-70000000000500000000 : Int).fdiv 1000000000).fdiv 86400)).1 < 0 ∧
    -1000000 < (Json.civil (((-70000000000500000000 : Int).fdiv 1000000000).fdiv 86400)).1 ∧
    Json.readTsAny (Json.fmtTs (-70000000000500000000)) = -70000000000500000000 := by decide +kernel

/-! non-vacuity: 2000-02-29 and 1969-12-31 -/
example : Json.civil 11016 = (2000, 2, 29) ∧ Json.daysFromCivil 2000 2 29 = 11016 ∧ Json.civil (-1) = (1969, 12, 31) := by
  decide +kernel

/-! non-vacuity: a concrete claim set and its text -/
example : Json.claimsJson { iss := some [97, 34], exp := some 0 } =
    "{\"iss\":\"a\\\"\",\"exp\":\"1970-01-01T00:00:00Z\"}".toUTF8.toList := by decide +kernel

end PM.C14
