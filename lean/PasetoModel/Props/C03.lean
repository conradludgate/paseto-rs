import PasetoModel.Asym
import PasetoModel.SpecHeaders
/-! # C03 — tokens are bit-exact PASETO; siblings interoperate
The skeleton instantiated at `specCfg` is the specification model (written from the PASETO
documents, 128-bit big-endian CTR counter); instantiated at `cfgOf b` it is the implementation
model.  `impl_eq_spec` is proved generically; the per-back-end obligation is a decidable
statement about `cfgOf`, which the correspondence keeps honest. -/
namespace PM.C03

/-- counter value of block `i` for a counter occupying the low `bits` bits of the 128-bit block -/
def ctrVal (bits n i : Nat) : Nat := (n / 2 ^ bits) * 2 ^ bits + (n % 2 ^ bits + i) % 2 ^ bits

/-- the executable CTR block function is this arithmetic -/
theorem ctrBlock_def (bits : Nat) (iv : ByteArray) (i : Nat) :
    Prim.Aes.ctrBlock bits iv i = Prim.natToBE (ctrVal bits (Prim.natOfBE iv) i) 16 := rfl

/-- why the vectors pass with a 64-bit counter: as long as the low word does not wrap inside the
    message the two counters coincide -/
theorem ctr64_eq_ctr128 (n i : Nat) (hn : n < 2 ^ 128) (h : n % 2 ^ 64 + i < 2 ^ 64) :
    ctrVal 64 n i = ctrVal 128 n i := by
  unfold ctrVal
  omega

/-- where they differ: as soon as the low 64-bit word wraps, the 64-bit counter loses the carry -/
theorem ctr64_ne_ctr128 (n i : Nat) (hn : n + i < 2 ^ 128) (h : n % 2 ^ 64 + i ≥ 2 ^ 64) :
    ctrVal 64 n i ≠ ctrVal 128 n i := by
  unfold ctrVal
  omega

/-- the implementation model *is* the specification model as soon as the code's choices conform -/
theorem impl_eq_spec (b : Backend) (h : (cfgOf b).ctrBits = 128) :
    localScheme b = specLocalScheme b.version (cfgOf b) :=
  localSchemeOf_congr _ h rfl

/-- every back end uses the full-width counter (obligation on `cfgOf`; a back end using
    `Ctr64BE` makes this false and the correspondence finds the disagreeing token) -/
theorem counters_full_width : ∀ b ∈ Backend.all, (cfgOf b).ctrBits = 128 := by decide

/-- hence every back end's local seal / unseal functions are the specification's -/
theorem all_backends_spec (b : Backend) (hb : b ∈ Backend.all) :
    localScheme b = specLocalScheme b.version (cfgOf b) := impl_eq_spec b (counters_full_width b hb)

/-- back ends of the same version with the same counter width compute the same token for the same nonce and
    accept the same tokens with the same claims: they can differ only in what `dangerous_seal_with_nonce` does
    with a payload shorter than the nonce -/
theorem siblings_agree (b b' : Backend) (hv : b.version = b'.version) (hc : (cfgOf b).ctrBits = (cfgOf b').ctrBits)
    (hh : tokHdr b .localP = tokHdr b' .localP) (k payload f a : Bytes)
    (hl : (localScheme b).nonceLen ≤ payload.length) :
    sealLocal (localScheme b) (tokHdr b .localP) k payload f a =
      sealLocal (localScheme b') (tokHdr b' .localP) k payload f a ∧
    unsealLocal (localScheme b) (tokHdr b .localP) k payload f a =
      unsealLocal (localScheme b') (tokHdr b' .localP) k payload f a := by
  have e : localScheme b' = { localScheme b with shortPayload := (cfgOf b').short } := by
    unfold localScheme; rw [← hv]; exact localSchemeOf_short _ hc
  rw [← hh, e]
  exact ⟨(sealLocal_shortPayload _ _ _ k payload f a hl).symm, rfl⟩

theorem siblings_agree_v3 (k payload f a : Bytes) (hl : payload.length ≥ 32) :
    sealLocal (localScheme .v3) (tokHdr .v3 .localP) k payload f a =
      sealLocal (localScheme .v3lc) (tokHdr .v3lc .localP) k payload f a ∧
    unsealLocal (localScheme .v3) (tokHdr .v3 .localP) k payload f a =
      unsealLocal (localScheme .v3lc) (tokHdr .v3lc .localP) k payload f a :=
  siblings_agree .v3 .v3lc rfl rfl rfl k payload f a hl

theorem siblings_agree_v4 (k payload f a : Bytes) (hl : payload.length ≥ 32) :
    sealLocal (localScheme .v4) (tokHdr .v4 .localP) k payload f a =
      sealLocal (localScheme .v4s) (tokHdr .v4s .localP) k payload f a ∧
    unsealLocal (localScheme .v4) (tokHdr .v4 .localP) k payload f a =
      unsealLocal (localScheme .v4s) (tokHdr .v4s .localP) k payload f a :=
  siblings_agree .v4 .v4s rfl rfl rfl k payload f a hl

/-- specification-conforming tokens are accepted with the same claims (C01 at the spec instance) -/
theorem spec_tokens_accepted (b : Backend) (hb : b ∈ Backend.all) (k n0 m f a : Bytes)
    (hn : n0.length = (localScheme b).nonceLen) (ha : (localScheme b).hasAad = true ∨ a = []) :
    ∃ tok, sealLocal (specLocalScheme b.version (cfgOf b)) (tokHdr b .localP) k (n0 ++ m) f a = .ok tok ∧
           unsealLocal (localScheme b) (tokHdr b .localP) k tok f a = .ok m := by
  rw [← all_backends_spec b hb]
  exact PM.local_roundtrip _ (localSchemeOf_laws _ _) _ k n0 m f a hn ha

/-- the token header strings the running code uses (regenerated into `Extracted/Headers.lean` on every
    run) are the PASETO documents' -/
theorem token_headers_are_spec : Spec.TokenHeadersConform := by decide

/-! non-vacuity -/
example : ctrVal 64 (2 ^ 64 - 1) 1 ≠ ctrVal 128 (2 ^ 64 - 1) 1 := by decide
example : ctrVal 64 5 1 = ctrVal 128 5 1 := by decide

end PM.C03
