import PasetoModel.Pae
/-! # C15 — pre-authentication encoding is the spec's PAE and is injective
Property theorems only; helper lemmas live in `PasetoModel/Pae.lean`. -/
namespace PM.C15

/-- The specification's PAE, unfolded: LE64 piece count, then per piece LE64 length and bytes. -/
theorem paeSpec_def (ps : List Bytes) :
    paeSpec ps = le64 ps.length ++ (ps.map (fun p => le64 p.length ++ p)).flatten := by
  unfold paeSpec; congr 1
  induction ps with
  | nil => rfl
  | cons p ps ih => simp [paeBody, ih]

/-- `le64` is the little-endian 64-bit encoding: byte `i` is `n / 256^i mod 256`. -/
theorem le64_bytes (n : Nat) (i : Nat) (hi : i < 8) :
    ((le64 n)[i]'(by simp [le64_length]; exact hi)).toNat = n / 256 ^ i % 256 := by
  have : i = 0 ∨ i = 1 ∨ i = 2 ∨ i = 3 ∨ i = 4 ∨ i = 5 ∨ i = 6 ∨ i = 7 := by omega
  rcases this with h|h|h|h|h|h|h|h <;> subst h <;> simp [le64]

/-- What the code writes (count, then per piece the *summed* fragment length followed by each
    fragment) is the spec's PAE of the pieces obtained by concatenating fragments.
    Guards: lengths fit `u64` (always true on the 64-bit target; stated because the code casts). -/
theorem pae_eq_spec (pieces : List (List Bytes))
    (hn : pieces.length < 2^64) (h : ∀ f ∈ pieces, (f.map List.length).sum < 2^64) :
    pae pieces = paeSpec (pieces.map List.flatten) :=
  paeWrites_flatten pieces hn h

/-- Streaming writers (digest / MAC / stream-verifier adapters) receive a sequence of `write`
    calls whose concatenation is exactly the buffer a `Vec` writer would hold. -/
theorem writer_trace (pieces : List (List Bytes)) :
    (paeWrites pieces).flatten = pae pieces := rfl

/-- PAE can be decoded: the piece list is recoverable from the encoding. -/
theorem unpae_pae (ps : List Bytes) (hn : ps.length < 2^64) (h : ∀ p ∈ ps, p.length < 2^64) :
    unpae (paeSpec ps) = some ps := unpae_paeSpec ps hn h

/-- Distinct piece lists always encode differently (no bound on counts or sizes other than
    the `u64` representability the format itself imposes). -/
theorem paeSpec_injective (ps qs : List Bytes) (hn : ps.length < 2^64) (hm : qs.length < 2^64)
    (hp : ∀ p ∈ ps, p.length < 2^64) (hq : ∀ p ∈ qs, p.length < 2^64)
    (h : paeSpec ps = paeSpec qs) : ps = qs :=
  Option.some.inj <| (unpae_paeSpec ps hn hp).symm.trans <| (congrArg unpae h).trans (unpae_paeSpec qs hm hq)

/-- Consequence for the code's encoder: two fragmentations encode equally iff their pieces agree
    after concatenating fragments — bytes cannot move between pieces unnoticed. -/
theorem pae_eq_iff (xs ys : List (List Bytes))
    (hx : xs.length < 2^64) (hy : ys.length < 2^64)
    (hxs : ∀ f ∈ xs, (f.map List.length).sum < 2^64) (hys : ∀ f ∈ ys, (f.map List.length).sum < 2^64) :
    pae xs = pae ys ↔ xs.map List.flatten = ys.map List.flatten := by
  have fl : ∀ zs : List (List Bytes), (∀ f ∈ zs, (f.map List.length).sum < 2^64) →
      ∀ p ∈ zs.map List.flatten, p.length < 2^64 := by
    intro zs hz p hp
    obtain ⟨f, hf, rfl⟩ := List.mem_map.mp hp
    simpa [List.length_flatten] using hz f hf
  rw [pae_eq_spec xs hx hxs, pae_eq_spec ys hy hys]
  exact ⟨paeSpec_injective _ _ (by simpa using hx) (by simpa using hy) (fl xs hxs) (fl ys hys), congrArg _⟩

/-- Boundary shifting changes the authenticated input: moving a non-empty suffix of one piece to
    the front of the next yields a different encoding. -/
theorem shift_changes (pre post : List Bytes) (a b x : Bytes) (hx : x ≠ [])
    (hl : pre.length + 2 + post.length < 2^64)
    (hp : ∀ p ∈ pre ++ (a ++ x) :: b :: post, p.length < 2^64)
    (hq : ∀ p ∈ pre ++ a :: (x ++ b) :: post, p.length < 2^64) :
    paeSpec (pre ++ (a ++ x) :: b :: post) ≠ paeSpec (pre ++ a :: (x ++ b) :: post) := by
  intro h
  have e := List.append_cancel_left (paeSpec_injective _ _ (by simp; omega) (by simp; omega) hp hq h)
  exact hx (List.append_right_eq_self.mp (List.cons.inj e).1)

/-! non-vacuity: concrete instances meeting the hypotheses -/
example : paeSpec [[1,2],[3]] ≠ paeSpec [[1],[2,3]] := by decide
example : pae [[[118,52],[],[46]], [[1,2,3]], []] = paeSpec [[118,52,46],[1,2,3],[]] := by decide
example : paeSpec [] = [0,0,0,0,0,0,0,0] := by decide
example : paeSpec [[]] = [1,0,0,0,0,0,0,0, 0,0,0,0,0,0,0,0] := by decide

end PM.C15
