import PasetoModel.Base64Lit
import PasetoModel.FfiLemmas
import PasetoModel.Extracted.Ffi
import PasetoModel.Extracted.Source
import PasetoModel.PaserkInst
import PasetoModel.Forms
import PasetoModel.Props.C01
/-! # C04 — no input makes parsing, unsealing, unwrapping or key use panic
Panic sites are explicit `Res.panic` branches of the model; these theorems show they are
unreachable from public input.  (Partial: aborts inside the C libraries, allocator failure and
true memory safety of aws-lc / libsodium cannot be exhibited by a Lean model; the model carries
the ownership and bounds contract of the Rust wrappers only.) -/
namespace PM.C04
open B64

/-! ## base64: the literal transcription with panicking slice operations -/

theorem decodedLen_eq (n : Nat) : decodedLen n = 3 * (n / 4) + 3 * (n % 4) / 4 := by
  simp only [decodedLen]; omega

/-- the literal `decode_vec` (with every `[..n]` and `copy_from_slice` as a potential panic) computes
    exactly the mirror used elsewhere — in particular it never reaches a panic branch -/
theorem decodeVecLit_eq (src : Bytes) :
    decodeVecLit src = (match decodeVec src with | some d => .ok d | none => .err .base64) := by
  obtain ⟨h1, h2, h3⟩ := decChunks_lens src
  unfold decodeVecLit decodeInnerLit decodeVec
  generalize decChunks src = r at *
  obtain ⟨out, e, rem⟩ := r
  simp only at h1 h2 h3 ⊢
  obtain ⟨t0, t1, t2, t3, hp⟩ := pad4 rem h3
  -- the destination has exactly one 3-byte chunk per 4-character chunk, and `rem.length * 3 / 4` more
  have hk : decodedLen src.length / 3 = src.length / 4 := by rw [decodedLen_eq]; omega
  have hr : decodedLen src.length - 3 * (src.length / 4) = rem.length * 3 / 4 := by
    rw [decodedLen_eq, h2]; omega
  have ht : out.take (3 * (src.length / 4)) = out := by rw [← h1]; exact List.take_length
  have c4 : rem.length ≤ 4 := by omega
  have c3 : rem.length * 3 / 4 ≤ 3 := by omega
  -- so every slice is in range, every copy has matching lengths, and no zero is left untouched
  simp only [hk, Nat.min_self, ht, hr, sliceTo, copyFromSlice, Res.bind, List.length_take, List.length_cons,
    List.length_nil, Nat.zero_add, Nat.reduceAdd, c4, c3, Nat.min_eq_left, if_true, hp, Nat.sub_self,
    List.replicate, List.append_nil]
  -- what is left: both sides make the same two tests (error bits, last block), in `Res` and in `Option`
  generalize (_ ||| (dec3 t0 t1 t2 t3).snd) = g
  split
  · split <;> rfl
  · rfl

theorem base64_decode_no_panic (src : Bytes) : ∀ s, decodeVecLit src ≠ .panic s := by
  intro s; rw [decodeVecLit_eq]; cases decodeVec src <;> simp

/-! The model's functions are nests of `match` and `if` whose leaves are `.ok` / `.err`; `h : f … = .panic x`
    is refuted by splitting `h` down to the leaves, each a constructor clash.  A leaf that calls another fallible
    function is left over and closed with that function's lemma; `bind` has a lemma of its own (`bind_ne_panic`). -/
macro "no_panic_at" h:ident : tactic =>
  `(tactic| (repeat' (first | (cases $h:ident; done) | split at $h:ident)))

theorem parseToken_no_panic (vh sf ph : Bytes) (fok : Bytes → Bool) (s : Bytes) :
    ∀ x, parseToken vh sf ph fok s ≠ .panic x := by
  intro x h; simp only [parseToken] at h; no_panic_at h

theorem parseSimple_no_panic (h1 h2 s : Bytes) : ∀ x, parseSimple h1 h2 s ≠ .panic x := by
  intro x h; simp only [parseSimple] at h; no_panic_at h

theorem parseKeyId_no_panic (h1 h2 s : Bytes) : ∀ x, parseKeyId h1 h2 s ≠ .panic x := by
  intro x h; simp only [parseKeyId] at h; no_panic_at h

/-- every `FromStr` of every back end -/
theorem form_parse_no_panic (b : Backend) (f : Form) (s : Bytes) : ∀ x, f.parse b s ≠ .panic x := by
  cases f with
  | tok p => exact bind_ne_panic (parseToken_no_panic _ _ _ _ _) fun _ _ h => by cases h
  | id k => exact parseKeyId_no_panic _ _ _
  | _ => exact parseSimple_no_panic _ _ _

theorem unsealLocal_no_panic (b : Backend) (k payload f a : Bytes) :
    ∀ x, unsealLocal (localScheme b) (tokHdr b .localP) k payload f a ≠ .panic x := by
  intro x
  rcases unsealLocal_total (localScheme b) (tokHdr b .localP) k payload f a with ⟨m, h⟩ | h | h | h <;> rw [h] <;> simp

theorem unsealPublic_no_panic (b : Backend) (k payload f a : Bytes) :
    ∀ x, unsealPublic (publicScheme b) (tokHdr b .publicP) k payload f a ≠ .panic x := by
  intro x
  rcases unsealPublic_total (publicScheme b) (tokHdr b .publicP) k payload f a with ⟨m, h⟩ | h | h | h <;> rw [h] <;> simp

theorem pieUnwrap_no_panic (b : Backend) (ver hdr wk blob : Bytes) :
    ∀ x, pieUnwrap (pieOf b) (pieTagLen b.version) ver hdr wk blob ≠ .panic x := by
  intro x h; simp only [pieUnwrap] at h; no_panic_at h

theorem pbkdfKdf_no_panic (c : BackendCfg) (p s q : Bytes) : ∀ x, pbkdfKdf c p s q ≠ .panic x := by
  intro x h; simp only [pbkdfKdf] at h; no_panic_at h
theorem argonKdf_no_panic (c : BackendCfg) (p s q : Bytes) : ∀ x, argonKdf c p s q ≠ .panic x := by
  intro x h; simp only [argonKdf] at h; no_panic_at h

theorem pbkw_kdf_no_panic (b : Backend) (p s q : Bytes) : ∀ x, (pbkwOf b).kdf p s q ≠ .panic x := by
  intro x h
  simp only [pbkwOf, pbkwSchemeOf] at h
  split at h
  · exact pbkdfKdf_no_panic _ _ _ _ x h
  · exact argonKdf_no_panic _ _ _ _ x h

theorem pbkwUnwrap_no_panic (b : Backend) (ver hdr pass blob : Bytes) :
    ∀ x, pbkwUnwrap (pbkwOf b) ver hdr pass blob ≠ .panic x := by
  intro x h
  simp only [pbkwUnwrap] at h
  no_panic_at h
  exact bind_ne_panic (pbkw_kdf_no_panic b _ _ _) (fun _ _ h => by no_panic_at h) x h

theorem pke_decap_no_panic (b : Backend) (s e : Bytes) : ∀ x, (pkeOf b).decap s e ≠ .panic x := by
  intro x h
  simp only [pkeOf, pkeSchemeOf] at h
  split at h <;> simp only [pkeRsa, pkeP384, pkeSodium] at h <;> no_panic_at h

theorem pkeUnseal_no_panic (b : Backend) (sk blob : Bytes) : ∀ x, pkeUnseal (pkeOf b) sk blob ≠ .panic x := by
  intro x h
  simp only [pkeUnseal] at h
  no_panic_at h
  exact bind_ne_panic (pke_decap_no_panic b _ _) (fun _ _ h => by no_panic_at h) x h

theorem edPubDecode_no_panic (c : BackendCfg) (raw : Bytes) : ∀ x, edPubDecode c raw ≠ .panic x := by
  intro x h; simp only [edPubDecode] at h; no_panic_at h
theorem edSecDecode_no_panic (c : BackendCfg) (raw : Bytes) : ∀ x, edSecDecode c raw ≠ .panic x := by
  intro x h; simp only [edSecDecode] at h; no_panic_at h
  all_goals exact edPubDecode_no_panic _ _ _ h
theorem p384PubDecode_no_panic (c : BackendCfg) (raw : Bytes) : ∀ x, p384PubDecode c raw ≠ .panic x := by
  intro x h; simp only [p384PubDecode] at h; no_panic_at h
theorem p384SecDecode_no_panic (raw : Bytes) : ∀ x, p384SecDecode raw ≠ .panic x := by
  intro x h; simp only [p384SecDecode] at h; no_panic_at h
theorem rsaPubDecode_no_panic (n : Nat) (raw : Bytes) : ∀ x, rsaPubDecode n raw ≠ .panic x := by
  intro x h; simp only [rsaPubDecode] at h; no_panic_at h
theorem rsaPrivDecode_no_panic (n : Nat) (raw : Bytes) : ∀ x, rsaPrivDecode n raw ≠ .panic x := by
  intro x h; simp only [rsaPrivDecode] at h; no_panic_at h

theorem keyDecode_no_panic (b : Backend) (k : Kind) (raw : Bytes) : ∀ x, keyDecode b k raw ≠ .panic x := by
  intro x h
  -- by kind, then by version: each branch is the length test or one of the six decoders
  cases k <;> simp only [keyDecode, keyDecodeWith] at h
  case localK => no_panic_at h
  case publicK | pkePublic =>
    split at h
    · exact rsaPubDecode_no_panic _ _ x h
    · exact p384PubDecode_no_panic _ _ x h
    · exact edPubDecode_no_panic _ _ x h
  case secretK | pkeSecret =>
    split at h
    · exact rsaPrivDecode_no_panic _ _ x h
    · exact p384SecDecode_no_panic _ x h
    · exact edSecDecode_no_panic _ _ x h

/-- `LocalKey::from([u8; 32])`'s `expect` is unreachable: 32 bytes always decode -/
theorem local_from_array_no_panic (b : Backend) (raw : Bytes) (h : raw.length = 32) :
    keyDecode b .localK raw = .ok raw := by simp [keyDecode, keyDecodeWith, h]

/-- an accepted P-384 public key is a 49-byte compressed point, never the infinity marker … -/
theorem p384_accepted_len (c : BackendCfg) (hc : c.pkRejectsInfinity = true) (raw key : Bytes)
    (h : p384PubDecode c raw = .ok key) : key.length = 49 := by
  unfold p384PubDecode at h
  split at h
  · split at h <;> cases h
    rename_i hb
    obtain ⟨x, -, rfl⟩ := Option.map_eq_some_iff.mp hb
    exact W.fixLen_length _ _
  · simp [hc] at h
  · cases h

/-- … hence **any key value a parser accepts can be encoded (displayed, identified, used) without
    panicking**: the `assert!(len == 49)` of `compressed_pub_key` is unreachable -/
theorem accepted_key_usable (b : Backend) (hb : b ∈ Backend.all) (k : Kind) (raw key : Bytes)
    (h : keyDecode b k raw = .ok key) : keyEncode b k key = .ok key := by
  -- decided here as in `C08.all_reject_infinity`, so that this property does not hang on C08's file
  have hinf : (cfgOf b).pkRejectsInfinity = true :=
    (by decide : ∀ b ∈ Backend.all, (cfgOf b).pkRejectsInfinity = true) b hb
  rw [keyEncode, if_neg]
  rintro ⟨hv, hk, rfl⟩
  simp only [keyDecode, keyDecodeWith, hv] at h
  have : p384InfinityKey.length = 49 := by
    rcases hk with rfl | rfl <;> exact p384_accepted_len _ hinf raw _ h
  cases this

/-! ## sealing with the library's own nonce never hits the short-payload panic -/

theorem seal_no_panic_from_nonce (b : Backend) (hb : b ∈ Backend.all) (k draw claims f a : Bytes)
    (hdraw : draw.length = (cfgOf b).nonceDraw) :
    ∀ x, sealLocal (localScheme b) (tokHdr b .localP) k (draw ++ claims) f a ≠ .panic x := by
  intro x
  have hn : draw.length = (localScheme b).nonceLen := by rw [hdraw]; exact C01.nonce_draw_is_consumed b hb
  unfold sealLocal
  split
  · simp
  · rw [splitFirst_append _ _ _ hn]; simp

/-! ## the one `unsafe` operation outside the aws-lc wrappers: `str::from_utf8_unchecked` in `base64::write_to_fmt` -/

/-- in the current source, every call made inside an `unsafe` block outside `lc/` is `str::from_utf8_unchecked` in
    `base64.rs` (`tools/srcscan.py`, regenerated on every run; how many such calls there are, and how the encoder is
    split into helpers, is not constrained) -/
theorem unsafe_calls_outside_ffi :
    Extracted.Source.unsafeCalls.all
      (fun c => c.1 == "paseto-core/src/base64.rs" && c.2 == "from_utf8_unchecked") = true := by decide

/-- their safety obligation: every byte the encoder produces (the 4-byte groups and the final partial group handed
    to `from_utf8_unchecked`) is an alphabet character, hence below 128 — a complete one-byte UTF-8 sequence -/
theorem write_to_fmt_utf8_safe (bs : Bytes) : ∀ ch ∈ encode bs, ch.toNat < 128 :=
  fun ch h => (by decide : ∀ c ∈ alphabet, c.toNat < 128) ch (encode_mem bs ch h)

/-! ## the FFI wrappers -/

/-- for every function of `lc/mod.rs` and every possible failure point: no double free, no use
    after free, no leak, and the returned object owns only live objects (finite, exhaustive) -/
theorem ffi_paths_balanced : Ffi.allFns.all Ffi.Fn.ok = true := by decide

/-- dropping `r.detach(); s.detach()` from `Signature::from_bytes` would be caught by the checker
    (the model is not vacuous) -/
theorem ffi_checker_detects_missing_detach :
    ({ Ffi.signatureFromBytes with body := Ffi.signatureFromBytes.body.take 4 } : Ffi.Fn).ok = false := by decide

/-! ### the same check on the action lists *translated from the current source* (`tools/ffiscan.py` →
    `Extracted/Ffi.lean`, regenerated on every run).  The translator treats every aws-lc call as a possible exit (`?`,
    `return Err`, or an unwinding panic), so the obligation does not depend on how errors are propagated. -/

/-- every function of the current `lc/mod.rs`, every exit point: nothing freed twice, used after being freed,
    leaked, or returned after being freed -/
theorem extracted_ffi_paths_balanced : Extracted.Ffi.fns.all Ffi.Fn.ok = true := by decide

/-- what the balance check *means* (soundness of the checker, `FfiLemmas.lean`): in every function of the current
    `lc/mod.rs`, whichever aws-lc call fails (or none), no object is released twice, and every object still allocated
    when the function is left is owned by the value it returns -/
theorem extracted_ffi_no_double_free_no_leak (f : Ffi.Fn) (hf : f ∈ Extracted.Ffi.fns) (failAt : Option Nat) :
    (Ffi.run f failAt).frees.Nodup ∧
    ∀ r ∈ (Ffi.run f failAt).live, f.returns.contains r = true ∨
      (Ffi.run f failAt).children.any (fun c => c.1 == r && f.returns.contains c.2) = true := by
  have h := extracted_ffi_paths_balanced
  rw [List.all_eq_true] at h
  exact Ffi.ok_sound_all f (h f hf) failAt

/-- every aws-lc function the current `lc/mod.rs` calls is one whose ownership behaviour the translator knows -/
theorem extracted_ffi_calls_classified : Extracted.Ffi.unclassified = [] := by decide

/-- the translation is not empty and covers the functions of the hand-written model -/
theorem extracted_ffi_covers :
    ["SigningKey::from_sec1_bytes", "Signature::from_bytes", "SigningKey::sign", "VerifyingKey::verify",
     "VerifyingKey::from_sec1_bytes", "<SigningKey as Clone>::clone", "<VerifyingKey as Clone>::clone",
     "SigningKey::diffie_hellman", "Signature::append_to_vec"].all
      (fun n => (Extracted.Ffi.fns.map (·.name)).contains n) = true := by decide

/-- the wrappers of the current `lc/ptr.rs` have the semantics the checker assumes: `LcPtr` frees on drop,
    `DetachableLcPtr` frees on drop iff not detached, `detach` releases nothing, and each pointee type is released
    with its own aws-lc function -/
theorem ffi_wrappers_as_modelled :
    Extracted.Ffi.managedDropFrees = true ∧ Extracted.Ffi.detachableDropFreesIffPresent = true ∧
    Extracted.Ffi.detachTakes = true ∧ Extracted.Ffi.aliasesAsModelled = true ∧
    Extracted.Ffi.macroFreeCallsGiven = true ∧
    Extracted.Ffi.freeTable = [("u8", "OPENSSL_free"), ("EC_GROUP", "EC_GROUP_free"), ("EC_POINT", "EC_POINT_free"),
      ("EC_KEY", "EC_KEY_free"), ("ECDSA_SIG", "ECDSA_SIG_free"), ("BIGNUM", "BN_free")] := by decide

/-- the extended checker is not vacuous: forgetting the DER buffer in `verify`, a raw release of a wrapped key, and an
    early `drop` followed by a use are each rejected -/
theorem ffi_checker_detects_forget_rawfree_earlydrop :
    ({ name := "verify+forget", borrowed := [0, 1, 2],
       body := [.call [2] true, .allocRaw 3, .adopt 3 false, .call [1, 3, 0] true, .detach 3], returns := [] } : Ffi.Fn).ok = false ∧
    ({ name := "from_point+EC_KEY_free", borrowed := [0, 1],
       body := [.alloc 2 false, .call [2, 0] true, .call [2, 1] true, .rawFree 2], returns := [2] } : Ffi.Fn).ok = false ∧
    ({ name := "drop(bn) then use", borrowed := [],
       body := [.alloc 1 false, .dropNow 1, .call [1] true], returns := [] } : Ffi.Fn).ok = false := by decide

/-- `append_to_vec`: `set_len(len + 96)` happens only after both 48-byte writes succeeded, within
    the reserved capacity and over fully initialised bytes; on failure the length is unchanged -/
theorem append_to_vec_in_bounds (v : Ffi.VecSt) (ok1 ok2 : Bool) :
    (Ffi.appendToVecModel v ok1 ok2).2 = true ∧
    (∀ v', (Ffi.appendToVecModel v ok1 ok2).1 = some v' → (v'.len = v.len + 96 ↔ (ok1 = true ∧ ok2 = true)) ∧
      (¬ (ok1 = true ∧ ok2 = true) → v'.len = v.len)) := by
  cases ok1 <;> cases ok2 <;> simp [Ffi.appendToVecModel] <;> omega

/-! non-vacuity -/
example : decodeVecLit [81, 81] = .ok [65] := by decide +kernel
example : (keyDecode .v3lc .publicK [0]).isOk = false := by
  have h2 : p384Decode [0] = .infinity := by rfl
  simp [keyDecode, keyDecodeWith, Backend.version, p384PubDecode, p384AltForm, h2, cfgOf, Res.isOk]

end PM.C04
