import PasetoModel.Validate
import PasetoModel.Token
/-! # C11 — claims are released only if the validator accepts; built-in validators are exact -/
namespace PM.C11

/-! ## exactness of every validator expression (all combinators, any depth) -/

/-- an early `Err(ClaimsError)` on a failing comparison is, in the specification's wording, a conjunct -/
theorem early_return (x y : Int) (k : Res Unit) :
    (if x < y then .err .claims else k) = if y ≤ x then k else .err .claims := by
  by_cases h : x < y
  · rw [if_pos h, if_neg (by omega)]
  · rw [if_neg h, if_pos (by omega)]

mutual
/-- Inside the property's guard, evaluation *is* the specification: `Ok` when `accepts` holds, the claims error
    otherwise.  Everything else in this file is read off this equation. -/
theorem eval_eq (r : TsRange) : (v : V) → (c : Claims) → v.inRange r = true →
    v.eval r c = if v.accepts c then .ok () else .err .claims
  | .time now, ⟨_, _, _, exp, nbf, _, _⟩, _ => by
      cases exp <;> cases nbf <;> simp [V.eval, V.accepts, claimsErr, early_return]
      split <;> simp [*]
  | .leeway now l, ⟨_, _, _, exp, nbf, _, _⟩, h => by
      simp only [V.inRange, Bool.and_eq_true, decide_eq_true_eq] at h
      -- the guard `h` makes both panic branches unreachable
      rcases exp with _ | e <;> rcases nbf with _ | n <;>
        simp [V.eval, V.accepts, claimsErr, early_return, Int.not_lt.mpr h.1, Int.not_lt.mpr h.2]
      all_goals by_cases he : now - l ≤ e <;> simp [he]
  | .hasExp, c, _ => by cases h : c.exp <;> simp [V.eval, V.accepts, claimsErr, h]
  | .sub s, c, _ => by simp [V.eval, V.accepts, claimsErr]
  | .iss s, c, _ => by simp [V.eval, V.accepts, claimsErr]
  | .aud s, c, _ => by simp [V.eval, V.accepts, claimsErr]
  | .andThen a b, c, h => by
      simp only [V.inRange, Bool.and_eq_true] at h
      simp only [V.eval, V.accepts, eval_eq r a c h.1, eval_eq r b c h.2]
      by_cases ha : a.accepts c = true <;> simp [ha]
  | .all vs, c, h => evalAll_eq r vs c h
  | .boxed v, c, h => eval_eq r v c h
  | .rc v, c, h => eval_eq r v c h
  | .arc v, c, h => eval_eq r v c h
  | .mapped v, c, h => eval_eq r v c h
  | .noValidation, _, _ => rfl
theorem evalAll_eq (r : TsRange) : (vs : List V) → (c : Claims) → V.inRangeAll r vs = true →
    V.evalAll r vs c = if V.acceptsAll vs c then .ok () else .err .claims
  | [], _, _ => rfl
  | v :: vs, c, h => by
      simp only [V.inRangeAll, Bool.and_eq_true] at h
      simp only [V.evalAll, V.acceptsAll, eval_eq r v c h.1, evalAll_eq r vs c h.2]
      by_cases ha : v.accepts c = true <;> simp [ha]
end

/-- For every validator expression whose leeway nodes are representable (`now ± leeway` in jiff's
    range — the property's guard), evaluation never panics and succeeds exactly when the
    specification's `accepts` says so; otherwise it is a claims error. -/
theorem eval_exact (r : TsRange) : (v : V) → (c : Claims) → v.inRange r = true →
    (v.eval r c = .ok () ∧ v.accepts c = true) ∨ (v.eval r c = .err .claims ∧ v.accepts c = false)
  | v, c, h => by rw [eval_eq r v c h]; cases v.accepts c <;> simp
theorem evalAll_exact (r : TsRange) : (vs : List V) → (c : Claims) → V.inRangeAll r vs = true →
    (V.evalAll r vs c = .ok () ∧ V.acceptsAll vs c = true) ∨
    (V.evalAll r vs c = .err .claims ∧ V.acceptsAll vs c = false)
  | vs, c, h => by rw [evalAll_eq r vs c h]; cases V.acceptsAll vs c <;> simp

/-- accepted iff the specification accepts -/
theorem eval_ok_iff_accepts (r : TsRange) (v : V) (c : Claims) (h : v.inRange r = true) :
    v.eval r c = .ok () ↔ v.accepts c = true := by
  rw [eval_eq r v c h]; cases v.accepts c <;> simp

/-! ## the built-in validators, spelled out -/

theorem time_exact (r : TsRange) (now : Int) (c : Claims) :
    (V.time now).eval r c = .ok () ↔
      (∀ e, c.exp = some e → e ≥ now) ∧ (∀ n, c.nbf = some n → n ≤ now) := by
  rw [eval_ok_iff_accepts r _ c rfl]
  simp only [V.accepts, Bool.and_eq_true]
  cases c.exp <;> cases c.nbf <;> simp

theorem leeway_exact (r : TsRange) (now : Int) (l : Nat) (c : Claims)
    (hlo : r.lo ≤ now - l) (hhi : now + l ≤ r.hi) :
    (V.leeway now l).eval r c = .ok () ↔
      (∀ e, c.exp = some e → e ≥ now - l) ∧ (∀ n, c.nbf = some n → n ≤ now + l) := by
  rw [eval_ok_iff_accepts r _ c (by simp [V.inRange, hlo, hhi])]
  simp only [V.accepts, Bool.and_eq_true]
  cases c.exp <;> cases c.nbf <;> simp

/-- the code panics (jiff's checked `Timestamp ± Duration`) only outside the property's guard:
    recorded so that the guard is visible, not hidden by totalisation -/
theorem leeway_panic_only_out_of_range (r : TsRange) (now : Int) (l : Nat) (c : Claims)
    (h : ((V.leeway now l).eval r c).isPanic = true) : now - l < r.lo ∨ now + l > r.hi := by
  by_cases g : r.lo ≤ now - l ∧ now + l ≤ r.hi
  · rw [eval_eq r _ c (by simp [V.inRange, g.1, g.2])] at h
    split at h <;> cases h
  · omega

/-- and outside the guard it does panic as soon as the offending claim is present -/
theorem leeway_panics_below (r : TsRange) (now : Int) (l : Nat) (c : Claims) (e : Int)
    (he : c.exp = some e) (h : now - l < r.lo) : ((V.leeway now l).eval r c).isPanic = true := by
  simp [V.eval, he, h, Res.isPanic]

theorem hasExpiry_exact (r : TsRange) (c : Claims) : V.hasExp.eval r c = .ok () ↔ c.exp.isSome = true := by
  rw [eval_ok_iff_accepts r _ c rfl]; simp [V.accepts]
theorem subject_exact (r : TsRange) (s : Bytes) (c : Claims) : (V.sub s).eval r c = .ok () ↔ c.sub = some s := by
  rw [eval_ok_iff_accepts r _ c rfl]; simp [V.accepts]
theorem issuer_exact (r : TsRange) (s : Bytes) (c : Claims) : (V.iss s).eval r c = .ok () ↔ c.iss = some s := by
  rw [eval_ok_iff_accepts r _ c rfl]; simp [V.accepts]
theorem audience_exact (r : TsRange) (s : Bytes) (c : Claims) : (V.aud s).eval r c = .ok () ↔ c.aud = some s := by
  rw [eval_ok_iff_accepts r _ c rfl]; simp [V.accepts]

/-! ## combinators -/

theorem andThen_exact (r : TsRange) (a b : V) (c : Claims) (h : (V.andThen a b).inRange r = true) :
    (V.andThen a b).eval r c = .ok () ↔ (a.eval r c = .ok () ∧ b.eval r c = .ok ()) := by
  have h' := h; simp only [V.inRange, Bool.and_eq_true] at h'
  rw [eval_ok_iff_accepts r _ c h, eval_ok_iff_accepts r a c h'.1, eval_ok_iff_accepts r b c h'.2]
  simp [V.accepts]

theorem acceptsAll_iff (vs : List V) (c : Claims) : V.acceptsAll vs c = true ↔ ∀ v ∈ vs, v.accepts c = true := by
  induction vs with
  | nil => simp [V.acceptsAll]
  | cons v vs ih => simp [V.acceptsAll, ih]

theorem inRangeAll_iff (r : TsRange) (vs : List V) : V.inRangeAll r vs = true ↔ ∀ v ∈ vs, v.inRange r = true := by
  induction vs with
  | nil => simp [V.inRangeAll]
  | cons v vs ih => simp [V.inRangeAll, ih]

/-- slices and vectors accept iff every member accepts -/
theorem all_exact (r : TsRange) (vs : List V) (c : Claims) (h : (V.all vs).inRange r = true) :
    (V.all vs).eval r c = .ok () ↔ ∀ v ∈ vs, v.eval r c = .ok () := by
  rw [eval_ok_iff_accepts r _ c h]
  simp only [V.accepts, acceptsAll_iff]
  simp only [V.inRange, inRangeAll_iff] at h
  exact forall₂_congr fun v hv => (eval_ok_iff_accepts r v c (h v hv)).symm

/-- `Box`, `Rc`, `Arc` and `map` (over a projection) are transparent; `NoValidation` accepts everything -/
theorem wrappers_transparent (r : TsRange) (v : V) (c : Claims) :
    (V.boxed v).eval r c = v.eval r c ∧ (V.rc v).eval r c = v.eval r c ∧
    (V.arc v).eval r c = v.eval r c ∧ (V.mapped v).eval r c = v.eval r c := by
  simp [V.eval]
theorem noValidation_accepts (r : TsRange) (c : Claims) : V.noValidation.eval r c = .ok () := by simp [V.eval]

/-! ## unsealing releases claims only if the validator accepts -/

/-- whatever the version's `unseal`, the decoder and the validator are: claims come back only if
    the validator returned `Ok` on exactly those claims -/
theorem unseal_releases_only_validated {M : Type} (vU : Res Bytes) (dec : Bytes → Option M)
    (val : M → Res Unit) (m : M) (h : (tokenUnseal vU dec val).1 = .ok m) : val m = .ok () := by
  unfold tokenUnseal at h
  split at h
  · cases h
  · cases h
  · split at h
    · cases h
    · split at h <;> cases h
      assumption

/-- with a validator expression: released ⇒ the specification accepts the released claims -/
theorem unseal_released_accepted (r : TsRange) (vU : Res Bytes) (dec : Bytes → Option Claims) (v : V)
    (hv : v.inRange r = true) (c : Claims) (h : (tokenUnseal vU dec (v.eval r)).1 = .ok c) :
    v.accepts c = true :=
  (eval_ok_iff_accepts r v c hv).mp (unseal_releases_only_validated vU dec _ c h)

/-- an authentic token whose claims the validator rejects yields a claims error, never claims -/
theorem unseal_rejects (r : TsRange) (ct : Bytes) (dec : Bytes → Option Claims) (v : V) (c : Claims)
    (hv : v.inRange r = true) (hd : dec ct = some c) (ha : v.accepts c = false) :
    (tokenUnseal (.ok ct) dec (v.eval r)).1 = .err .claims := by
  simp [tokenUnseal, hd, eval_eq r v c hv, ha]

/-! non-vacuity -/
example : (V.andThen (.leeway 100 5) (.all [.hasExp, .boxed (.sub [1])])).inRange ⟨-1000, 1000⟩ = true := by decide
example : (V.andThen (.leeway 100 5) (.all [.hasExp, .boxed (.sub [1])])).eval ⟨-1000, 1000⟩
    { exp := some 95, sub := some [1] } = .ok () := by decide
example : (V.leeway 100 5).eval ⟨-1000, 1000⟩ { exp := some 94 } = .err .claims := by decide
example : ((V.leeway 100 5).eval ⟨98, 1000⟩ { exp := some 94 }).isPanic = true := by decide

end PM.C11
