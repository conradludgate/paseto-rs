import PasetoModel.TextLemmas
import PasetoModel.Forms
import PasetoModel.Extracted.B64Src
/-! # C09 — text encodings are strict and canonical
Property theorems only (lemmas: `B64/*.lean`, `TextLemmas.lean`).  `decodeVec`/`encode` are the
bit-exact mirror of `paseto-core/src/base64.rs`; the forms are instantiated at the header
constants re-read from the code. -/
namespace PM.C09
open B64

/-- `decode_6bits` is the alphabet index or −1, for every byte value (table, all 256 cases). -/
theorem dec6_spec (c : UInt8) : dec6 c = specDec6 c := dec6_eq_spec c

/-- `encode_6bits` is the alphabet lookup, for every 6-bit value (table, all 64 cases). -/
theorem enc6_spec (n : Nat) (h : n < 64) : alphabet[n]? = some (enc6 (BitVec.ofNat 16 n)) :=
  enc6_table ⟨n, h⟩

/-- Every byte sequence encodes to a string that decodes back to it. -/
theorem decode_encode (bs : Bytes) : decodeVec (encode bs) = some bs := B64.decode_encode bs

/-- Every accepted string is the encoding of what it decodes to: one string per value. -/
theorem encode_decode (s bs : Bytes) (h : decodeVec s = some bs) : encode bs = s :=
  B64.encode_decode s bs h

/-- No two different accepted strings carry the same bytes. -/
theorem decode_injective (s₁ s₂ bs : Bytes) (h₁ : decodeVec s₁ = some bs) (h₂ : decodeVec s₂ = some bs) :
    s₁ = s₂ := by rw [← encode_decode _ _ h₁, ← encode_decode _ _ h₂]

/-- Strictness: an accepted string consists of alphabet characters only (so no `=`, `+`, `/`,
    whitespace or `.`), and its length is never 1 mod 4. -/
theorem decode_strict (s bs : Bytes) (h : decodeVec s = some bs) :
    (∀ c ∈ s, c ∈ alphabet) ∧ s.length % 4 ≠ 1 ∧ s.length = (4 * bs.length + 2) / 3 := by
  obtain rfl := encode_decode s bs h
  refine ⟨encode_mem bs, ?_, encode_length bs⟩
  rw [encode_length]; omega

theorem rejects_non_alphabet (s : Bytes) (c : UInt8) (hc : c ∈ s) (hn : c ∉ alphabet) :
    decodeVec s = none :=
  Option.eq_none_iff_forall_ne_some.2 fun bs h => hn ((decode_strict s bs h).1 c hc)

/-- padding, standard-alphabet characters, whitespace and separators are rejected anywhere -/
theorem rejects_padding (s : Bytes) (h : (61 : UInt8) ∈ s) : decodeVec s = none :=
  rejects_non_alphabet s _ h eq_not_alpha
theorem rejects_plus (s : Bytes) (h : (43 : UInt8) ∈ s) : decodeVec s = none :=
  rejects_non_alphabet s _ h plus_not_alpha
theorem rejects_slash (s : Bytes) (h : (47 : UInt8) ∈ s) : decodeVec s = none :=
  rejects_non_alphabet s _ h slash_not_alpha
theorem rejects_space (s : Bytes) (h : (32 : UInt8) ∈ s) : decodeVec s = none :=
  rejects_non_alphabet s _ h space_not_alpha
theorem rejects_dot (s : Bytes) (h : (46 : UInt8) ∈ s) : decodeVec s = none :=
  rejects_non_alphabet s _ h dot_not_alpha

/-- impossible lengths are rejected -/
theorem rejects_len_1_mod_4 (s : Bytes) (h : s.length % 4 = 1) : decodeVec s = none :=
  Option.eq_none_iff_forall_ne_some.2 fun bs hd => (decode_strict s bs hd).2.1 h

/-! ## the arithmetic kernels *as translated from the current source* (`tools/b64scan.py` → `Extracted/B64Src.lean`)

These three statements are about the Rust functions themselves (translated expression by expression on every run), not
about the hand-written mirror: the branch-free `decode_6bits` is the alphabet lookup on every byte, `encode_6bits` is the
alphabet on every 6-bit value, and `decoded_len` is ⌊3n/4⌋ computed without overflow.  Each is vacuous if the function
has left the translator's subset (`available_* = false`; the exhaustive correspondence is then the only tie). -/

theorem src_decode_6bits_is_alphabet_lookup :
    (!Extracted.B64Src.available_decode_6bits ||
      (List.range 256).all (fun n => Extracted.B64Src.decode_6bits (b n) == specDec6 (b n))) = true := by decide +kernel

theorem src_encode_6bits_is_alphabet :
    (!Extracted.B64Src.available_encode_6bits ||
      (List.range 64).all (fun n => alphabet[n]? == some (Extracted.B64Src.encode_6bits (v n)))) = true := by decide +kernel

theorem src_decoded_len (n : Nat) :
    Extracted.B64Src.available_decoded_len = true → Extracted.B64Src.decoded_len n = 3 * n / 4 ∧
      Extracted.B64Src.decoded_len n = decodedLen n := by
  intro _
  constructor <;> (simp +zeta only [Extracted.B64Src.decoded_len, decodedLen] <;> omega)

/-! ## the text forms, for every back end -/

/-- tokens: show then parse is the identity (any payload, any footer the footer type accepts) -/
theorem token_show_parse (b : Backend) (p : Purpose) (fk : FooterKind) (t : SealedTok)
    (hf : fk.ok t.footer = true) :
    parseToken (Extracted.versionHeader b) jsonSuffix (Extracted.kindHeader p.toKind) fk.ok
      (showToken (Extracted.versionHeader b) jsonSuffix (Extracted.kindHeader p.toKind) t) = .ok t :=
  parseToken_showToken _ _ _ _ t hf

/-- tokens: an accepted string re-serialises to itself, up to one trailing `.` (empty footer) -/
theorem token_canonical (b : Backend) (p : Purpose) (fk : FooterKind) (s : Bytes) (t : SealedTok)
    (h : parseToken (Extracted.versionHeader b) jsonSuffix (Extracted.kindHeader p.toKind) fk.ok s = .ok t) :
    showToken (Extracted.versionHeader b) jsonSuffix (Extracted.kindHeader p.toKind) t = s ∨
    showToken (Extracted.versionHeader b) jsonSuffix (Extracted.kindHeader p.toKind) t ++ [dot] = s :=
  showToken_parseToken _ _ _ _ s t h

/-- two accepted token strings with the same content differ at most by that trailing `.` -/
theorem token_strings_unique (b : Backend) (p : Purpose) (fk : FooterKind) (s₁ s₂ : Bytes) (t : SealedTok)
    (h₁ : parseToken (Extracted.versionHeader b) jsonSuffix (Extracted.kindHeader p.toKind) fk.ok s₁ = .ok t)
    (h₂ : parseToken (Extracted.versionHeader b) jsonSuffix (Extracted.kindHeader p.toKind) fk.ok s₂ = .ok t) :
    s₁ = s₂ ∨ s₁ = s₂ ++ [dot] ∨ s₂ = s₁ ++ [dot] := by
  rcases token_canonical b p fk s₁ t h₁ with rfl | rfl <;>
    rcases token_canonical b p fk s₂ t h₂ with rfl | rfl <;> simp

/-! the same three statements for a payload type with *any* encoding suffix (`Payload::SUFFIX`; the harness exercises `"c"`):
    `Display` writes version ‖ suffix ‖ purpose and `FromStr` accepts exactly that order -/

theorem token_show_parse_suffix (b : Backend) (p : Purpose) (fk : FooterKind) (sf : Bytes) (t : SealedTok)
    (hf : fk.ok t.footer = true) :
    tokRtSuf b p fk sf (showToken (Extracted.versionHeader b) sf (Extracted.kindHeader p.toKind) t) =
      .ok (showToken (Extracted.versionHeader b) sf (Extracted.kindHeader p.toKind) t, t.footer) := by
  unfold tokRtSuf
  rw [parseToken_showToken _ _ _ _ t hf]
  rfl

theorem token_canonical_suffix (b : Backend) (p : Purpose) (fk : FooterKind) (sf s : Bytes) (t : SealedTok)
    (h : parseToken (Extracted.versionHeader b) sf (Extracted.kindHeader p.toKind) fk.ok s = .ok t) :
    showToken (Extracted.versionHeader b) sf (Extracted.kindHeader p.toKind) t = s ∨
    showToken (Extracted.versionHeader b) sf (Extracted.kindHeader p.toKind) t ++ [dot] = s :=
  showToken_parseToken _ _ _ _ s t h

/-- every accepted token string starts with version ‖ suffix ‖ purpose, in this order -/
theorem token_header_order (b : Backend) (p : Purpose) (fk : FooterKind) (sf s : Bytes) (t : SealedTok)
    (h : parseToken (Extracted.versionHeader b) sf (Extracted.kindHeader p.toKind) fk.ok s = .ok t) :
    (Extracted.versionHeader b ++ sf ++ Extracted.kindHeader p.toKind) <+: s :=
  parseToken_ok_prefix h

/-- KeyText, PIE-wrapped, password-wrapped and sealed keys: show ∘ parse and parse ∘ show -/
theorem simple_show_parse (b : Backend) (f : Form) (d : Bytes) :
    parseSimple (f.h1 b) (f.h2 b) (showSimple (f.h1 b) (f.h2 b) d) = .ok d :=
  parseSimple_showSimple _ _ d

theorem simple_canonical (b : Backend) (f : Form) (s d : Bytes)
    (h : parseSimple (f.h1 b) (f.h2 b) s = .ok d) : showSimple (f.h1 b) (f.h2 b) d = s :=
  (parseSimple_eq_ok.mp h).symm

/-- key ids: exactly 33 decoded bytes, canonical text -/
theorem keyid_show_parse (b : Backend) (k : Kind) (d : Bytes) (hl : d.length = 33) :
    parseKeyId (Extracted.paserkHeader b) (Extracted.idHeader k)
      (showSimple (Extracted.paserkHeader b) (Extracted.idHeader k) d) = .ok d :=
  parseKeyId_eq_ok.mpr ⟨rfl, hl⟩

theorem keyid_canonical_33 (b : Backend) (k : Kind) (s d : Bytes)
    (h : parseKeyId (Extracted.paserkHeader b) (Extracted.idHeader k) s = .ok d) :
    showSimple (Extracted.paserkHeader b) (Extracted.idHeader k) d = s ∧ d.length = 33 :=
  (parseKeyId_eq_ok.mp h).imp_left Eq.symm

/-- every form at every back end (the uniform `Form.parse`): accepted ⇒ canonical -/
theorem form_canonical (b : Backend) (f : Form) (s d : Bytes) (hf : ∀ p, f ≠ .tok p)
    (h : f.parse b s = .ok d) : showSimple (f.h1 b) (f.h2 b) d = s := by
  cases f with
  | tok p => exact absurd rfl (hf p)
  | id k => exact (keyid_canonical_33 b k s d h).1
  | _ => exact simple_canonical b _ s d h

/-- the serde representation is exactly the string: serialising gives the `Display` string and
    deserialising a JSON string is `FromStr`; any other JSON value is rejected -/
theorem serde_is_string {α} (parse : Bytes → Res α) (shown s : Bytes) :
    serdeSer shown = .str shown ∧ serdeDe parse (.str s) = parse s ∧
      serdeDe parse .other = .err .payload := ⟨rfl, rfl, rfl⟩

/-! non-vacuity -/
example : decodeVec [81, 81] = some [65] := by decide +kernel       -- "QQ" ↦ "A"
example : decodeVec [81, 82] = none := by decide +kernel            -- "QR": non-canonical trailing bits
example : decodeVec [81, 81, 61, 61] = none := by decide +kernel    -- "QQ==": padding
example : (tokRt .v4 .localP .vec (Extracted.versionHeader .v4 ++ Extracted.kindHeader .localK ++ [81, 81, 46])).isOk = true := by
  decide +kernel

end PM.C09
