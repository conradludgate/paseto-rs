import PasetoModel.Asym
import PasetoModel.Props.C15
/-! # C02 — only the exact bytes, footer, assertion, header and key are accepted
Exact acceptance characterisations + injectivity of the authenticated encoding.  The last step
("no other tag/signature verifies") is the unforgeability of the MAC / signature: an explicit
hypothesis of the corollary, never an axiom. -/
namespace PM.C02

/-- Local tokens, every back end: `unseal` returns a message **iff** the payload splits into
    nonce ‖ ciphertext ‖ tag of exactly the prescribed lengths, the assertion policy holds and
    the tag *equals* the scheme's tag over (key, header, nonce, ciphertext, footer, assertion). -/
theorem unsealLocal_ok_iff (b : Backend) (k payload f a m : Bytes) :
    unsealLocal (localScheme b) (tokHdr b .localP) k payload f a = .ok m ↔
      ((localScheme b).hasAad = true ∨ a = []) ∧
      ∃ n c t, payload = n ++ c ++ t ∧ n.length = (localScheme b).nonceLen ∧ t.length = (localScheme b).tagLen ∧
        t = (localScheme b).tag k (tokHdr b .localP) n c f a ∧ m = (localScheme b).dec k n c :=
  PM.unsealLocal_ok_iff _ _ k payload f a m

/-- Public tokens, every back end: accepted iff the payload is message ‖ signature with the
    signature of exactly the prescribed length verifying over the PAE of exactly these pieces. -/
theorem unsealPublic_ok_iff (b : Backend) (pk payload f a m : Bytes) :
    unsealPublic (publicScheme b) (tokHdr b .publicP) pk payload f a = .ok m ↔
      ((publicScheme b).hasAad = true ∨ a = []) ∧
      ∃ sig, payload = m ++ sig ∧ sig.length = (publicScheme b).sigLen ∧
        (publicScheme b).check pk (pae ((publicScheme b).pieces pk (tokHdr b .publicP) m f a)) sig = .valid :=
  PM.unsealPublic_ok_iff _ _ pk payload f a m

/-- the tag comparison covers the full tag -/
theorem tag_compare_full (x y : Bytes) : tagEq x y = true ↔ x = y := tagEq_iff x y

/-- the split into nonce, ciphertext, tag is unique: truncating, extending or shifting bytes
    between the three regions changes at least one of them -/
theorem split_unique (n c t n' c' t' : Bytes) (hn : n.length = n'.length) (ht : t.length = t'.length)
    (h : n ++ c ++ t = n' ++ c' ++ t') : n = n' ∧ c = c' ∧ t = t' := by
  have h1 := List.append_inj' h ht
  have h2 := List.append_inj h1.1 hn
  exact ⟨h2.1, h2.2, h1.2⟩

/-- versions without implicit assertions refuse a non-empty assertion, when unsealing and when sealing -/
theorem noaad_rejects_local (b : Backend) (h : (localScheme b).hasAad = false) (k payload f a : Bytes) (ha : a ≠ []) :
    unsealLocal (localScheme b) (tokHdr b .localP) k payload f a = .err .claims ∧
    sealLocal (localScheme b) (tokHdr b .localP) k payload f a = .err .claims := by
  simp [unsealLocal, sealLocal, h, ha]

theorem noaad_rejects_public (b : Backend) (h : (publicScheme b).hasAad = false) (k payload f a rnd : Bytes) (ha : a ≠ []) :
    unsealPublic (publicScheme b) (tokHdr b .publicP) k payload f a = .err .claims ∧
    sealPublic (publicScheme b) (tokHdr b .publicP) k payload f a rnd = .err .claims := by
  simp [unsealPublic, sealPublic, h, ha]

theorem aad_policy : ∀ b ∈ Backend.all,
    ((localScheme b).hasAad = decide (b.version ≥ 3)) ∧ ((publicScheme b).hasAad = decide (b.version ≥ 3)) := by
  decide

/-- what each version authenticates, spelled out: the MAC input of the encrypt-then-MAC versions
    is the code's PAE over (header fragments, nonce, ciphertext, footer[, assertion]) -/
theorem local_tag_is_mac_of_pae (b : Backend) (hb : b.version ≠ 2) (k n c f a : Bytes) :
    ∃ (P : SymPrims), (localScheme b).tag k (tokHdr b .localP) n c f a =
      P.mac (P.ak k n) (pae (symPieces (localScheme b).hasAad (tokHdr b .localP) n c f a)) := by
  obtain ⟨P, _, _, _, _, h⟩ := localSchemeOf_sym b.version (cfgOf b) hb
  exact ⟨P, by rw [localScheme, h]; rfl⟩

/-- v2 authenticates the ciphertext with the PAE of (header, nonce, footer) as associated data -/
theorem v2_tag_is_aead (k n c f a : Bytes) :
    (localScheme .v2).tag k (tokHdr .v2 .localP) n c f a = v2Aead.atag k n (pae [tokHdr .v2 .localP, [n], [f]]) c := rfl

/-- **The authenticated input is injective in every component**: equal PAEs force equal header,
    nonce, ciphertext, footer and assertion — so none of the listed mutations (bit flips in any
    region, footer/assertion changes, boundary shifts, header relabels) keeps the MAC input. -/
theorem authenticated_input_injective (hasAad : Bool) (h h' : List Bytes) (n c f a n' c' f' a' : Bytes)
    (hb : ∀ x ∈ [h.flatten, n, c, f, a, h'.flatten, n', c', f', a'], x.length < 2 ^ 64)
    (e : pae (symPieces hasAad h n c f a) = pae (symPieces hasAad h' n' c' f' a')) :
    h.flatten = h'.flatten ∧ n = n' ∧ c = c' ∧ f = f' ∧ (hasAad = true → a = a') := by
  simp only [List.forall_mem_cons, List.length_flatten] at hb
  cases hasAad <;>
    simpa [symPieces] using (C15.pae_eq_iff _ _ (by simp [symPieces]) (by simp [symPieces])
      (by simp [symPieces, hb]) (by simp [symPieces, hb])).mp e

/-- a forgery against the MAC: a key/input/tag triple that verifies but was never issued -/
def MacForgery (mac : Bytes → Bytes → Bytes) (issued : List (Bytes × Bytes × Bytes)) : Prop :=
  ∃ k x t, mac k x = t ∧ (k, x, t) ∉ issued

/-- **Reduction.** If a token is accepted under (key, header, footer, assertion) and its tag was
    not issued for exactly that MAC key and MAC input, the acceptance exhibits a MAC forgery.
    No cryptographic assumption is used. -/
theorem tamper_reduction (P : SymPrims) (nonceLen tagLen : Nat) (hasAad : Bool) (short : Res Bytes)
    (synth : Bytes → Bytes → Bytes) (hdr : List Bytes) (k payload f a m : Bytes)
    (issued : List (Bytes × Bytes × Bytes))
    (hacc : unsealLocal (symScheme P nonceLen tagLen hasAad short synth) hdr k payload f a = .ok m)
    (hnot : ∀ n c t, payload = n ++ c ++ t → n.length = nonceLen → t.length = tagLen →
      (P.ak k n, pae (symPieces hasAad hdr n c f a), t) ∉ issued) :
    MacForgery P.mac issued := by
  obtain ⟨_, n, c, t, hp, hn, ht, htag, _⟩ := (PM.unsealLocal_ok_iff _ _ _ _ _ _ _).mp hacc
  exact ⟨P.ak k n, pae (symPieces hasAad hdr n c f a), t, htag.symm, hnot n c t hp hn ht⟩

/-- corollary under the standard idealisation (stated as a hypothesis): if the MAC is unforgeable
    with respect to the issued triples, every token whose tag was not issued is rejected -/
theorem tamper_rejected (P : SymPrims) (nonceLen tagLen : Nat) (hasAad : Bool) (short : Res Bytes)
    (synth : Bytes → Bytes → Bytes) (hdr : List Bytes) (k payload f a : Bytes)
    (issued : List (Bytes × Bytes × Bytes))
    (hU : ¬ MacForgery P.mac issued)
    (hnot : ∀ n c t, payload = n ++ c ++ t → n.length = nonceLen → t.length = tagLen →
      (P.ak k n, pae (symPieces hasAad hdr n c f a), t) ∉ issued) :
    ∀ m, unsealLocal (symScheme P nonceLen tagLen hasAad short synth) hdr k payload f a ≠ .ok m :=
  fun m h => hU (tamper_reduction P nonceLen tagLen hasAad short synth hdr k payload f a m issued h hnot)

/-- unsealing never panics, and fails only with claims / invalid-token / crypto errors -/
theorem unseal_total (b : Backend) (k payload f a : Bytes) :
    (∃ m, unsealLocal (localScheme b) (tokHdr b .localP) k payload f a = .ok m) ∨
    unsealLocal (localScheme b) (tokHdr b .localP) k payload f a = .err .claims ∨
    unsealLocal (localScheme b) (tokHdr b .localP) k payload f a = .err .invalidToken ∨
    unsealLocal (localScheme b) (tokHdr b .localP) k payload f a = .err .crypto :=
  unsealLocal_total _ _ _ _ _ _

/-! non-vacuity: a too-short payload is rejected as invalid, on a concrete back end -/
example : unsealLocal (localScheme .v4) (tokHdr .v4 .localP) [] [1, 2, 3] [] [] = .err .invalidToken := by
  simp [unsealLocal, localScheme, localSchemeOf, Backend.version, symScheme, splitLast]

end PM.C02
