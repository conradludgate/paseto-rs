import PasetoModel.Types
import PasetoModel.Extracted.Api
/-! # C18 — misuse fails to compile; secrets cannot be printed
The implementation table is re-read from rustc on every run; the kernel re-checks that, for every
operation at every combination of type arguments, a program type-checks exactly when the
property's policy allows it: the table is uniform in the back end (`impls_of_backend`,
`impls_of_key`), and with that each signature's bounds reduce to the policy.  (Partial: rustc is the
implementation of the type system; the model covers the bounds of the catalogued operations and is
tied to rustc by compiling one program per catalogue entry.) -/
namespace PM.C18
open Types Extracted.Impls

/-- What the policy needs of the implementation table, per back end: it seals, unseals, wraps and
    identifies; sealed tokens print; unsealed ones neither print nor serialise. -/
theorem impls_of_backend (v : Backend) :
    (sealingLocal v ∧ sealingPublic v ∧ unsealingLocal v ∧ unsealingPublic v ∧
      pieWrap v ∧ pwWrap v ∧ pkeSealing v ∧ idVersion v ∧ sealedLocalDisplay v ∧ sealedPublicDisplay v) ∧
    unsealedLocalDisplay v = false ∧ unsealedPublicDisplay v = false ∧
    unsealedLocalSerialize v = false ∧ unsealedPublicSerialize v = false := by
  cases v <;> decide

/-- … per key type: every back end has every kind; of `Display`, `Debug`, `Serialize` only `Display`
    of a public key exists … -/
theorem impls_of_key (v : Backend) (k : Kind) :
    hasKey v k = true ∧ keyDisplay v k = decide (k = .publicK) ∧ keyDebug v k = false ∧
    keySerialize v k = false := by
  cases v <;> cases k <;> decide

/-- … and `Local` and `Secret` are the sealing keys. -/
theorem sealingKeyMarker_eq (k : Kind) :
    sealingKeyMarker k = (decide (k = .localK) || decide (k = .secretK)) := by
  cases k <;> decide

theorem impls_of_purpose (v : Backend) (p : Purpose) : sealingV v p = true ∧ unsealingV v p = true := by
  cases p <;> simp [sealingV, unsealingV, impls_of_backend]

/-- **the decision table equals the policy**, for every operation of the catalogue at every type argument:
    with the facts above the bounds of each signature reduce to the policy's conditions -/
theorem types_match_policy (op : TOp) : typechecks op = allowed op := by
  cases op with
  | displaySealed v p | displayUnsealed v p | serializeUnsealed v p =>
    -- the formatting rows take the table's column by the purpose
    cases p <;> simp [typechecks, allowed, impls_of_backend]
  | _ => simp [typechecks, allowed, impls_of_backend, impls_of_purpose, impls_of_key, sealingKeyMarker_eq]

/-! the entries of the misuse catalogue, read off the policy -/

theorem cross_version_seal_rejected (tv kv : Backend) (p : Purpose) (kk : Kind) (h : tv ≠ kv) :
    typechecks (.sealTok tv p kv kk) = false ∧ typechecks (.unsealTok tv p kv kk) = false := by
  simp [types_match_policy, allowed, h]

theorem wrong_purpose_key_rejected (v : Backend) (p : Purpose) (kk : Kind) (h : kk ≠ sealingKeyOf p) :
    typechecks (.sealTok v p v kk) = false := by
  simp [types_match_policy, allowed, h]

theorem verify_encrypted_rejected (v kv : Backend) (kk : Kind) :
    typechecks (.verify v .localP kv kk) = false ∧ typechecks (.decrypt v .publicP kv kk) = false := by
  simp [types_match_policy, allowed]

theorem secrets_not_printable (v : Backend) (k : Kind) (h : k ≠ .publicK) :
    typechecks (.displayKey v k) = false ∧ typechecks (.debugKey v k) = false ∧ typechecks (.serializeKey v k) = false := by
  simp [types_match_policy, allowed, h]

theorem unsealed_not_serialisable (v : Backend) (p : Purpose) :
    typechecks (.displayUnsealed v p) = false ∧ typechecks (.serializeUnsealed v p) = false := by
  simp [types_match_policy, allowed]

theorem public_key_not_wrappable (v wv : Backend) (wk : Kind) :
    typechecks (.wrapPie v .publicK wv wk) = false ∧ typechecks (.pwWrap v .publicK) = false := by
  simp [types_match_policy, allowed]

theorem pke_key_is_not_signing_key (v : Backend) (p : Purpose) :
    typechecks (.sign v p v .pkeSecret) = false ∧ typechecks (.verify v p v .pkePublic) = false := by
  simp [types_match_policy, allowed]

theorem correct_programs_compile (v : Backend) (p : Purpose) :
    typechecks (.sealTok v p v (sealingKeyOf p)) = true ∧ typechecks (.unsealTok v p v p.toKind) = true ∧
    typechecks (.exposeKey v .secretK) = true ∧ typechecks (.displayKey v .publicK) = true := by
  simp [types_match_policy, allowed]

/-- **Secret key material only through the explicit expose call.**  Over the impl table rustc reports on every run: none of the
    conversions / views that would hand out the bytes of a local, secret or PKE secret key (`Into<[u8; N]>`, `Into<Vec<u8>>`,
    `AsRef<[u8]>`, `Borrow<[u8]>`, `Deref`, `ToString`, `Hash`, `LowerHex`, …), and none that would turn an unsealed or unverified
    token into text or hand out its footer, is implemented on any back end; and `Key` has no public field. -/
theorem no_forbidden_impl :
    Extracted.Impls.forbiddenImpls.all (fun p => !p.2) = true ∧ Extracted.Api.keyPubFields = [] := by
  constructor
  · decide +kernel
  · decide

/-! non-vacuity -/
example : typechecks (.verify .v4 .localP .v4 .publicK) = false := by decide
example : typechecks (.verify .v4 .publicP .v4 .publicK) = true := by decide

end PM.C18
