import PasetoModel.Asym
/-! # C08 — keys survive serialisation; secret ↦ matching public; invalid encodings rejected
A decoded key is represented by its canonical encoding.  Interpretation (DESIGN §6 C08): the
property demands idempotence of decode ∘ encode, so normalising accepted alternative encodings
(PEM → DER, uncompressed / compact / hybrid SEC1 → compressed) is not a violation. -/
namespace PM.C08

/-- key kinds whose decoder returns the input bytes unchanged -/
def rawKind (version : Nat) (k : Kind) : Bool :=
  match k with
  | .localK => true
  | .publicK | .pkePublic => decide (version = 2 ∨ version = 4)
  | .secretK | .pkeSecret => decide (version = 2 ∨ version = 3 ∨ version = 4)

/-! What each decoder that hands back its input accepts: the negations of its guards.  Identity, lengths, ranges and the
    consistency of the public half are read off these. -/

theorem localKeyDecode_ok_iff (c : BackendCfg) (v : Nat) (raw key : Bytes) :
    keyDecodeWith c v .localK raw = .ok key ↔ raw.length = 32 ∧ raw = key := by
  simp only [keyDecodeWith]
  split <;> simp [*]

theorem edPubDecode_ok_iff (c : BackendCfg) (raw key : Bytes) :
    edPubDecode c raw = .ok key ↔ raw.length = 32 ∧ (c.pkOnCurve && (edPoint raw).isNone) = false ∧
      (c.pkRejectsWeak && edWeak raw) = false ∧ raw = key := by
  simp only [edPubDecode, guard_ok_iff, ne_eq, Decidable.not_not, Bool.not_eq_true, Res.ok.injEq]

theorem edSecDecode_ok_iff (c : BackendCfg) (raw key : Bytes) :
    edSecDecode c raw = .ok key ↔ raw.length = 64 ∧ raw = key ∧
      (c.skChecksPubHalf = true →
        edPubDecode c (raw.drop 32) = .ok (raw.drop 32) ∧ edPub (raw.take 32) = raw.drop 32) := by
  simp only [edSecDecode, guard_ok_iff, ne_eq, Decidable.not_not]
  cases c.skChecksPubHalf
  · simp
  · cases hpk : edPubDecode c (raw.drop 32) with
    | ok pk =>
      obtain rfl := ((edPubDecode_ok_iff ..).mp hpk).2.2.2
      by_cases hp : edPub (raw.take 32) = raw.drop 32 <;> simp [hp]
    | _ => simp

theorem p384SecDecode_ok_iff (raw key : Bytes) :
    p384SecDecode raw = .ok key ↔ raw.length = 48 ∧ ¬ (fromBe raw = 0 ∨ fromBe raw ≥ Prim.P384.n) ∧ raw = key := by
  simp only [p384SecDecode, guard_ok_iff, ne_eq, Decidable.not_not, Res.ok.injEq]

/-- for those kinds an accepted key *is* its bytes: serialise ∘ parse is the identity on accepted
    inputs, hence decode ∘ encode is idempotent and nothing is normalised -/
theorem decode_returns_input (c : BackendCfg) (version : Nat) (k : Kind) (raw key : Bytes)
    (hk : rawKind version k = true)
    (h : keyDecodeWith c version k raw = .ok key) : key = raw := by
  cases k
  case localK => exact ((localKeyDecode_ok_iff ..).mp h).2.symm
  case publicK | pkePublic =>
    simp only [rawKind, decide_eq_true_eq] at hk
    rcases hk with rfl | rfl <;> exact ((edPubDecode_ok_iff ..).mp h).2.2.2.symm
  case secretK | pkeSecret =>
    simp only [rawKind, decide_eq_true_eq] at hk
    rcases hk with rfl | rfl | rfl
    · exact ((edSecDecode_ok_iff ..).mp h).2.1.symm
    · exact ((p384SecDecode_ok_iff ..).mp h).2.2.symm
    · exact ((edSecDecode_ok_iff ..).mp h).2.1.symm

theorem decode_idempotent (c : BackendCfg) (version : Nat) (k : Kind) (raw key : Bytes)
    (hk : rawKind version k = true)
    (h : keyDecodeWith c version k raw = .ok key) : keyDecodeWith c version k key = .ok key := by
  obtain rfl := decode_returns_input c version k raw key hk h
  exact h

/-- the normalising decoders (P-384 public keys) are idempotent provided point compression
    round-trips (dependency law: `decompress (compress P) = P`) -/
theorem decode_idempotent_p384 (c : BackendCfg) (raw key : Bytes)
    (law : ∀ P b, p384Compress P = some b → ∃ P', p384Decode b = .point P' ∧ p384Compress P' = some b)
    (hne : key ≠ p384InfinityKey) (halt : p384AltForm c key = none)
    (h : p384PubDecode c raw = .ok key) : p384PubDecode c key = .ok key := by
  unfold p384PubDecode at h
  split at h
  · rename_i P _
    split at h
    · rename_i hb
      cases h
      obtain ⟨P', h1, h2⟩ := law P _ hb
      simp [p384PubDecode, halt, h1, h2]
    · cases h
  · split at h
    · cases h
    · exact absurd (Res.ok.inj h).symm hne
  · cases h

theorem local_key_len (c : BackendCfg) (v : Nat) (raw key : Bytes) (h : keyDecodeWith c v .localK raw = .ok key) :
    raw.length = 32 := ((localKeyDecode_ok_iff ..).mp h).1

theorem ed_public_len (c : BackendCfg) (raw key : Bytes) (h : edPubDecode c raw = .ok key) : raw.length = 32 :=
  ((edPubDecode_ok_iff ..).mp h).1

theorem ed_secret_len (c : BackendCfg) (raw key : Bytes) (h : edSecDecode c raw = .ok key) : raw.length = 64 :=
  ((edSecDecode_ok_iff ..).mp h).1

theorem p384_secret_len_and_range (raw key : Bytes) (h : p384SecDecode raw = .ok key) :
    raw.length = 48 ∧ 1 ≤ fromBe raw ∧ fromBe raw < Prim.P384.n := by
  obtain ⟨hl, hr, -⟩ := (p384SecDecode_ok_iff ..).mp h
  exact ⟨hl, by omega, by omega⟩

/-- out-of-range scalars (0, n, …, 2^384−1) are rejected -/
theorem scalar_out_of_range_rejected (raw : Bytes) (h : fromBe raw = 0 ∨ fromBe raw ≥ Prim.P384.n) :
    (p384SecDecode raw).isOk = false := by
  simp [p384SecDecode, h, Res.isOk]

/-- Ed25519 back ends: an accepted secret key's public half is the key derived from its seed, and
    `public_key()` returns exactly that half -/
theorem ed_public_half_consistent (c : BackendCfg) (hc : c.skChecksPubHalf = true) (raw key : Bytes)
    (h : edSecDecode c raw = .ok key) :
    key = raw ∧ pubOfWith c 4 key = raw.drop 32 ∧ edPub (raw.take 32) = raw.drop 32 := by
  obtain ⟨-, rfl, hh⟩ := (edSecDecode_ok_iff ..).mp h
  exact ⟨rfl, by simp [pubOfWith, hc, (hh hc).2], (hh hc).2⟩

/-- every back end checks the public half (obligation on `cfgOf`, kept honest by the streams) -/
theorem all_check_public_half : ∀ b ∈ Backend.all, (cfgOf b).skChecksPubHalf = true := by decide

/-- off-curve bytes are rejected when the decoder checks decompression … -/
theorem off_curve_rejected (c : BackendCfg) (hc : c.pkOnCurve = true) (raw : Bytes) (h : (edPoint raw).isNone = true) :
    (edPubDecode c raw).isOk = false := by
  simp [edPubDecode, hc, h, Res.isOk]

/-- … and every back end does (after the repair of paseto-v4-sodium) -/
theorem all_check_on_curve : ∀ b ∈ Backend.all, (cfgOf b).pkOnCurve = true := by decide

/-- the P-384 point at infinity is rejected by every back end (after the repair of paseto-v3-aws-lc) -/
theorem all_reject_infinity : ∀ b ∈ Backend.all, (cfgOf b).pkRejectsInfinity = true := by decide

theorem infinity_rejected (c : BackendCfg) (hc : c.pkRejectsInfinity = true) :
    (p384PubDecode c [0]).isOk = false := by
  have h1 : p384AltForm c [0] = none := by simp [p384AltForm]
  have h2 : p384Decode [0] = .infinity := rfl
  simp [p384PubDecode, h1, h2, hc, Res.isOk]

/-- hence no accepted key makes `encode` panic: the panic site of `compressed_pub_key` is unreachable -/
theorem encode_never_panics (b : Backend) (k : Kind) (key : Bytes) (hne : key ≠ p384InfinityKey) : keyEncode b k key = .ok key := by
  simp [keyEncode, hne]

/-- **Known finding (recorded, not repaired — the official PASERK vectors `k2/k4.public-1` use the
    all-zero small-order key and must be accepted):** the Ed25519 back ends accept small-order
    points, including the identity, as public keys.  The full statement of the property would be
    `∀ b, (cfgOf b).pkRejectsWeak = true`; it is false, with this witness: -/
theorem small_order_points_accepted_partial :
    (cfgOf .v2).pkRejectsWeak = false ∧ (cfgOf .v4).pkRejectsWeak = false ∧ (cfgOf .v4s).pkRejectsWeak = false := by
  decide

/-- under a decoder that does reject them, the identity would be rejected (what the property asks) -/
theorem weak_rejected_if_checked (c : BackendCfg) (hc : c.pkRejectsWeak = true) (raw : Bytes) (hw : edWeak raw = true) :
    (edPubDecode c raw).isOk = false := by
  simp [edPubDecode, hc, hw, Res.isOk]

/-! ### v1 (RSA) keys: decode ∘ encode is idempotent under the DER codec law -/

/-- the DER codec law for the two RSA containers (`der` / `spki` / `pkcs1` are dependencies: the law is a hypothesis; the
    executable codec of the model is validated against the library on every run by the `key.dec` / `o.key` stream) -/
structure DerLaws : Prop where
  spki : ∀ n e, Der.parseSpkiRsa (Der.encodeSpkiRsa n e) = some (n, e)
  pkcs1 : ∀ k : Der.RsaPriv, Der.parsePkcs1 (Der.encodePkcs1 k) = some k

/-- what the v1 public-key decoder returns is the canonical SPKI DER of a checked (n, e) with the prescribed modulus size,
    whatever container (DER or PEM) the key came in -/
theorem rsaPubDecode_ok (bits : Nat) (raw key : Bytes) (h : rsaPubDecode bits raw = .ok key) :
    ∃ n e, rsaPublicOk n e = true ∧ bitLen n = bits ∧ Der.encodeSpkiRsa n e = key := by
  simp only [rsaPubDecode] at h
  split at h
  · cases h
  · rename_i n e _
    simp only [guard_ok_iff] at h
    exact ⟨n, e, by simpa using h⟩

/-- v1 public keys survive serialisation: decoding the re-encoded key gives the same key (PEM / DER inputs are normalised once) -/
theorem rsa_pub_decode_idempotent (L : DerLaws) (bits : Nat) (raw key : Bytes)
    (h : rsaPubDecode bits raw = .ok key) : rsaPubDecode bits key = .ok key := by
  obtain ⟨n, e, hok, hb, rfl⟩ := rsaPubDecode_ok bits raw key h
  simp [rsaPubDecode, L.spki n e, hok, hb]

theorem rsaPrivDecode_ok (bits : Nat) (raw key : Bytes) (h : rsaPrivDecode bits raw = .ok key) :
    ∃ k, rsaPrivValid k = true ∧ bitLen k.n = bits ∧ Der.encodePkcs1 k = key := by
  simp only [rsaPrivDecode] at h
  split at h
  · cases h
  · rename_i k _
    simp only [guard_ok_iff] at h
    exact ⟨k, by simpa using h⟩

/-- v1 secret keys survive serialisation -/
theorem rsa_priv_decode_idempotent (L : DerLaws) (bits : Nat) (raw key : Bytes)
    (h : rsaPrivDecode bits raw = .ok key) : rsaPrivDecode bits key = .ok key := by
  obtain ⟨k, hok, hb, rfl⟩ := rsaPrivDecode_ok bits raw key h
  simp [rsaPrivDecode, L.pkcs1 k, hok, hb]

/-- a modulus of any other size is rejected (the prescribed sizes are passed by the callers: 2048 for signing keys) -/
theorem rsa_wrong_modulus_size_rejected (bits : Nat) (raw key : Bytes) (h : rsaPubDecode bits raw = .ok key) :
    ∃ n e, Der.parseSpkiRsa key = Der.parseSpkiRsa (Der.encodeSpkiRsa n e) ∧ bitLen n = bits := by
  obtain ⟨n, e, -, hb, rfl⟩ := rsaPubDecode_ok bits raw key h
  exact ⟨n, e, rfl, hb⟩

/-! non-vacuity -/
example : (keyDecode .v4 .localK (List.replicate 32 7)).isOk = true := by decide
example : (keyDecode .v4 .localK (List.replicate 33 7)).isOk = false := by decide
example : (p384SecDecode (List.replicate 48 0)).isOk = false := by decide

end PM.C08
