import PasetoModel.Pae
/-! Public (signed) tokens: one skeleton for `*/src/core/public.rs` of all six back ends. -/
namespace PM

/-- outcome of signature parsing + verification -/
inductive SigCheck | valid | malformed | invalid
  deriving DecidableEq, Repr

structure PublicScheme where
  sigLen : Nat
  hasAad : Bool
  /-- PAE pieces: v3 puts the compressed public key first; v1/v2 have no assertion piece -/
  pieces : Bytes → List Bytes → Bytes → Bytes → Bytes → List (List Bytes)   -- pk hdr msg footer aad
  /-- public key of a secret key (canonical encodings) -/
  pubOf : Bytes → Bytes
  /-- signature over the pre-authentication encoding; `rnd` = per-signature randomness (if any);
      may fail (`CryptoError`) -/
  sign : Bytes → Bytes → Bytes → Res Bytes          -- sk, authenticated bytes, rnd
  check : Bytes → Bytes → Bytes → SigCheck          -- pk, authenticated bytes, signature

structure PublicLaws (S : PublicScheme) : Prop where
  /-- a produced signature has the fixed length -/
  sign_len : ∀ sk m r s, S.sign sk m r = .ok s → s.length = S.sigLen
  /-- what a key signs, its public key verifies -/
  sign_check : ∀ sk m r s, S.sign sk m r = .ok s → S.check (S.pubOf sk) m s = .valid

/-- `SealingVersion<Public>::dangerous_seal_with_nonce`: payload = encoded claims (the nonce is empty) -/
def sealPublic (S : PublicScheme) (hdr : List Bytes) (sk msg f a rnd : Bytes) : Res Bytes :=
  if !S.hasAad && !a.isEmpty then .err .claims else
  (S.sign sk (pae (S.pieces (S.pubOf sk) hdr msg f a)) rnd).map (fun sig => msg ++ sig)

/-- `UnsealingVersion<Public>::unseal` -/
def unsealPublic (S : PublicScheme) (hdr : List Bytes) (pk payload f a : Bytes) : Res Bytes :=
  if !S.hasAad && !a.isEmpty then .err .claims else
  match splitLast S.sigLen payload with
  | none => .err .invalidToken
  | some (msg, sig) =>
    match S.check pk (pae (S.pieces pk hdr msg f a)) sig with
    | .valid => .ok msg
    | .malformed => .err .invalidToken
    | .invalid => .err .crypto

def piecesNoPk (hasAad : Bool) (_pk : Bytes) (hdr : List Bytes) (m f a : Bytes) : List (List Bytes) :=
  if hasAad then [hdr, [m], [f], [a]] else [hdr, [m], [f]]
def piecesPk (pk : Bytes) (hdr : List Bytes) (m f a : Bytes) : List (List Bytes) :=
  [[pk], hdr, [m], [f], [a]]

/-- exact success characterisation of sealing: the assertion policy allows it and the signer succeeds -/
theorem sealPublic_ok_iff (S : PublicScheme) (hdr : List Bytes) (sk msg f a rnd tok : Bytes) :
    sealPublic S hdr sk msg f a rnd = .ok tok ↔
      (S.hasAad = true ∨ a = []) ∧
      ∃ sig, S.sign sk (pae (S.pieces (S.pubOf sk) hdr msg f a)) rnd = .ok sig ∧ tok = msg ++ sig := by
  unfold sealPublic
  rw [guard_ok_iff, Bool.not_eq_true, aadRefused_eq_false, Res.map_eq_ok]
  simp only [@eq_comm _ tok]

/-- sealing succeeds whenever the assertion policy allows it and the signer succeeds -/
theorem sealPublic_ok (S : PublicScheme) (hdr : List Bytes) (sk msg f a rnd sig : Bytes)
    (ha : S.hasAad = true ∨ a = [])
    (hs : S.sign sk (pae (S.pieces (S.pubOf sk) hdr msg f a)) rnd = .ok sig) :
    sealPublic S hdr sk msg f a rnd = .ok (msg ++ sig) :=
  (sealPublic_ok_iff ..).mpr ⟨ha, sig, hs, rfl⟩

theorem unsealPublic_ok_iff (S : PublicScheme) (hdr : List Bytes) (pk payload f a m : Bytes) :
    unsealPublic S hdr pk payload f a = .ok m ↔
      (S.hasAad = true ∨ a = []) ∧
      ∃ sig, payload = m ++ sig ∧ sig.length = S.sigLen ∧
        S.check pk (pae (S.pieces pk hdr m f a)) sig = .valid := by
  unfold unsealPublic
  rw [guard_ok_iff, Bool.not_eq_true, aadRefused_eq_false]
  refine and_congr_right fun _ => ⟨fun h => ?_, ?_⟩
  · split at h
    · cases h
    · rename_i msg sig hs
      obtain ⟨rfl, hl⟩ := splitLast_eq_some.mp hs
      split at h <;> cases h
      exact ⟨sig, rfl, hl, ‹_›⟩
  · rintro ⟨sig, rfl, hl, hc⟩
    simp [splitLast_append _ _ _ hl, hc]

theorem public_roundtrip (S : PublicScheme) (L : PublicLaws S) (hdr : List Bytes) (sk msg f a rnd tok : Bytes)
    (h : sealPublic S hdr sk msg f a rnd = .ok tok) :
    unsealPublic S hdr (S.pubOf sk) tok f a = .ok msg := by
  obtain ⟨ha, sig, hs, rfl⟩ := (sealPublic_ok_iff ..).mp h
  exact (unsealPublic_ok_iff ..).mpr ⟨ha, sig, rfl, L.sign_len _ _ _ _ hs, L.sign_check _ _ _ _ hs⟩

theorem unsealPublic_total (S : PublicScheme) (hdr : List Bytes) (pk payload f a : Bytes) :
    (∃ m, unsealPublic S hdr pk payload f a = .ok m) ∨
    unsealPublic S hdr pk payload f a = .err .claims ∨
    unsealPublic S hdr pk payload f a = .err .invalidToken ∨
    unsealPublic S hdr pk payload f a = .err .crypto := by
  unfold unsealPublic
  repeat' split
  all_goals simp

end PM
