import PasetoModel.JsonLemmas
/-! A reader for exactly the text `claimsJson` writes (compact object whose keys and values are string literals), and the
    proof that it reads back the member list that was written: the wire form is unambiguous at the level of bytes.  (The
    library's reader is `serde_json`, a dependency; this reader exists to state the round trip inside the model.) -/
namespace PM.Json
open PM

/-- scan the inside of a string literal up to the closing quote: a backslash protects the next byte.
    Returns the raw (still escaped) content and what follows the closing quote. -/
def scanStr : Bytes → Bytes → Option (Bytes × Bytes)
  | [], _ => none
  | b :: r, acc =>
    if b = 34 then some (acc, r)
    else if b = 92 then
      match r with
      | [] => none
      | c :: r' => scanStr r' (acc ++ [92, c])
    else scanStr r (acc ++ [b])

/-- read one string literal at the head of the input -/
def readStr (s : Bytes) : Option (Bytes × Bytes) :=
  match s with
  | 34 :: r => (scanStr r []).bind fun (raw, rest) => (unescape raw).map fun v => (v, rest)
  | _ => none

theorem hexDigit_plain : ∀ n : Fin 16, hexDigit n.val ≠ 34 ∧ hexDigit n.val ≠ 92 := by decide

theorem scanStr_quote (r acc : Bytes) : scanStr (34 :: r) acc = some (acc, r) := by
  rw [scanStr.eq_def]; simp
theorem scanStr_bs (c : UInt8) (r acc : Bytes) : scanStr (92 :: c :: r) acc = scanStr r (acc ++ [92, c]) := by
  rw [scanStr.eq_def]; simp
theorem scanStr_plain (b : UInt8) (r acc : Bytes) (h1 : b ≠ 34) (h2 : b ≠ 92) :
    scanStr (b :: r) acc = scanStr r (acc ++ [b]) := by
  rw [scanStr.eq_def]; simp [h1, h2]

/-- scanning over the escaped form of one byte just copies it -/
theorem scanStr_escByte (b : UInt8) (rest acc : Bytes) :
    scanStr (escByte b ++ rest) acc = scanStr rest (acc ++ escByte b) := by
  rcases escByte_cases b with ⟨c, _, he⟩ | ⟨h32, he⟩ | ⟨h34, h92, _, he⟩ <;> rw [he]
  · exact scanStr_bs _ _ _
  · have hn : b.toNat < 32 := by simpa [UInt8.lt_iff_toNat_lt] using h32
    have h1 := hexDigit_plain ⟨b.toNat / 16, by omega⟩
    have h2 := hexDigit_plain ⟨b.toNat % 16, by omega⟩
    simp only at h1 h2
    simp only [List.cons_append, List.nil_append]
    rw [scanStr_bs, scanStr_plain 48 _ _ (by decide) (by decide), scanStr_plain 48 _ _ (by decide) (by decide),
        scanStr_plain _ _ _ h1.1 h1.2, scanStr_plain _ _ _ h2.1 h2.2]
    simp
  · exact scanStr_plain b _ _ h34 h92

theorem scanStr_escape (s rest acc : Bytes) :
    scanStr (escape s ++ 34 :: rest) acc = some (acc ++ escape s, rest) := by
  induction s generalizing acc with
  | nil => simp only [escape, List.flatMap_nil, List.nil_append, List.append_nil]; exact scanStr_quote _ _
  | cons b t ih =>
    simp only [escape, List.flatMap_cons, List.append_assoc] at ih ⊢
    rw [scanStr_escByte, ih]
    simp

/-- **a string literal reads back as the string that was written**, whatever follows it -/
theorem readStr_jsonStr (s rest : Bytes) : readStr (jsonStr s ++ rest) = some (s, rest) := by
  simp only [jsonStr, readStr, List.cons_append, List.append_assoc]
  rw [scanStr_escape]
  simp [unescape_escape]

/-- read `"key":"value"` -/
def readMember (s : Bytes) : Option ((Bytes × Bytes) × Bytes) :=
  (readStr s).bind fun (k, r) =>
    match r with
    | 58 :: r' => (readStr r').map fun (v, r'') => ((k, v), r'')
    | _ => none

/-- read members separated by `,` up to the closing `}`; `fuel` bounds the number of members -/
def readMembers : Nat → Bytes → Option (List (Bytes × Bytes))
  | 0, _ => none
  | fuel + 1, s =>
    (readMember s).bind fun (m, r) =>
      match r with
      | [125] => some [m]
      | 44 :: r' => (readMembers fuel r').map (m :: ·)
      | _ => none

/-- read a compact object of string members -/
def readObject (s : Bytes) : Option (List (Bytes × Bytes)) :=
  match s with
  | 123 :: r => if r = [125] then some [] else readMembers r.length r
  | _ => none

/-- text of a member whose value is a string -/
def strMemberText (m : Bytes × Bytes) : Bytes := jsonStr m.1 ++ [58] ++ jsonStr m.2

theorem readMember_text (m : Bytes × Bytes) (rest : Bytes) :
    readMember (strMemberText m ++ rest) = some (m, rest) := by
  simp [strMemberText, readMember, readStr_jsonStr]

theorem readMembers_text (ms : List (Bytes × Bytes)) (m : Bytes × Bytes) (fuel : Nat) (h : ms.length < fuel) :
    readMembers fuel (joinComma ((m :: ms).map strMemberText) ++ [125]) = some (m :: ms) := by
  induction ms generalizing m fuel with
  | nil =>
    obtain ⟨f, rfl⟩ := Nat.exists_eq_add_one_of_ne_zero (Nat.ne_zero_of_lt h)
    simp [joinComma, readMembers, readMember_text]
  | cons m2 t ih =>
    obtain ⟨f, rfl⟩ := Nat.exists_eq_add_one_of_ne_zero (Nat.ne_zero_of_lt h)
    simpa [joinComma, readMembers, readMember_text] using ih m2 f (by simpa using h)

/-- every member takes at least one byte, so the length of the text is fuel enough for `readObject` -/
theorem joinComma_len (ms : List (Bytes × Bytes)) : ms.length ≤ (joinComma (ms.map strMemberText)).length := by
  induction ms with
  | nil => simp
  | cons x l ih => cases l <;> simp [joinComma, strMemberText, jsonStr] at ih ⊢ <;> omega

/-- **the object reads back as the member list that was written** -/
theorem readObject_text (ms : List (Bytes × Bytes)) :
    readObject ([123] ++ joinComma (ms.map strMemberText) ++ [125]) = some ms := by
  cases ms with
  | nil => rfl
  | cons m t =>
    have hl : t.length + 1 ≤ _ := joinComma_len (m :: t)
    have hne : joinComma ((m :: t).map strMemberText) ++ [125] ≠ [125] := fun h => by
      have := congrArg List.length h
      simp only [List.length_append, List.length_cons, List.length_nil] at this
      omega
    simp only [List.cons_append, readObject, List.nil_append, if_neg hne]
    exact readMembers_text t m _ (by simp only [List.length_append, List.length_cons, List.length_nil]; omega)

end PM.Json
