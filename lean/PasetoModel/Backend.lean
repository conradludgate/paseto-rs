import PasetoModel.Local
import PasetoModel.Names
import PasetoModel.Prim.Wrap
import PasetoModel.Extracted.Headers
/-! Per-back-end code choices (`BackendCfg`) and the concrete executable schemes.
    `cfgOf` is written from reading the code of each back end; `specCfg` from the PASETO / PASERK
    documents.  The two meet only where a property compares fields of `cfgOf b` with `specCfg`
    (`C03.counters_full_width`, `C07.Conforms`). -/
namespace PM

structure BackendCfg where
  /-- width of the AES-CTR counter actually used (`ctr::Ctr64BE` = 64; aws-lc / OpenSSL = 128) -/
  ctrBits : Nat := 128
  /-- length of the vector returned by `V::nonce()` for local tokens (from `Extracted`) -/
  nonceDraw : Nat := 32
  /-- `dangerous_seal_with_nonce` on a payload shorter than the nonce: panics (`split_at_mut`)? -/
  sealShortPanics : Bool := false
  /-- error returned instead, where it does not panic -/
  sealShortErr : Err := .invalidToken
  /-- ECDSA r‖s written fixed-width (left-padded) -/
  sigPadded : Bool := true
  /-- v1 PKE: RSA-KEM ciphertext written as exactly 512 bytes -/
  kemCtPadded : Bool := true
  /-- public-key decoder rejects the point at infinity -/
  pkRejectsInfinity : Bool := true
  /-- public-key decoder checks the point is on the curve / decompressible -/
  pkOnCurve : Bool := true
  /-- public-key decoder rejects small-order (weak) Ed25519 points, incl. the identity -/
  pkRejectsWeak : Bool := true
  /-- secret-key decoder checks that the embedded public half matches the seed -/
  skChecksPubHalf : Bool := true
  /-- PBKW (Argon2): memory (a byte count) not a multiple of 1024 is rejected (true) or rounded down to
      whole KiB like libsodium's crypto_pwhash, the reference (false) -/
  argonMemMod1024 : Bool := false
  /-- PBKW (Argon2): parallelism other than 1 is supported -/
  argonParallel : Bool := true
  /-- PBKW (PBKDF2): zero iterations rejected with an error (false: treated as one iteration) -/
  pbkwRejectsZeroIter : Bool := false
  /-- P-384 public-key decoder also accepts the SEC1 "compact" form (tag 05, x only; RustCrypto) -/
  pkCompact : Bool := false
  /-- P-384 public-key decoder also accepts the X9.62 "hybrid" form (tag 06/07; aws-lc) -/
  pkHybrid : Bool := false
  deriving Repr, DecidableEq

/-- what the specification prescribes (and what siblings must share) -/
def specCfg : BackendCfg := {}

/-- the components a back end must share with the specification for bit-exactness and round trips -/
def BackendCfg.ConformsLocal (c : BackendCfg) (nonceLen : Nat) : Prop :=
  c.ctrBits = 128 ∧ c.nonceDraw = nonceLen

instance (c : BackendCfg) (n : Nat) : Decidable (c.ConformsLocal n) := by
  unfold BackendCfg.ConformsLocal; exact inferInstance

/-- the code as it is today -/
def cfgOf : Backend → BackendCfg
  | .v1 => { nonceDraw := Extracted.nonceDrawLocal .v1, pbkwRejectsZeroIter := false }
  | .v2 => { nonceDraw := Extracted.nonceDrawLocal .v2, sealShortErr := .crypto, pkRejectsWeak := false }
  | .v3 => { nonceDraw := Extracted.nonceDrawLocal .v3, pkCompact := true }
  | .v3lc => { nonceDraw := Extracted.nonceDrawLocal .v3lc, sealShortPanics := true,
               pbkwRejectsZeroIter := true, pkHybrid := true }
  | .v4 => { nonceDraw := Extracted.nonceDrawLocal .v4, sealShortPanics := true, pkRejectsWeak := false }
  | .v4s => { nonceDraw := Extracted.nonceDrawLocal .v4s, pkRejectsWeak := false, argonParallel := false }

def BackendCfg.short (c : BackendCfg) : Res Bytes :=
  if c.sealShortPanics then .panic "local.rs: split_at_mut(32) on a payload shorter than the nonce"
  else .err c.sealShortErr

/-! ### concrete primitives per version -/
open W

def v1Sym (ctrBits : Nat) : SymPrims :=
  { ek := fun k n => hkdf384 (n.take 16) k (str "paseto-encryption-key") 32,
    n2 := fun _ n => n.drop 16,
    ak := fun k n => hkdf384 (n.take 16) k (str "paseto-auth-key-for-aead") 32,
    stream := aesCtr ctrBits,
    mac := hmac384 }

def v3Sym (ctrBits : Nat) : SymPrims :=
  { ek := fun k n => (hkdf384 [] k (str "paseto-encryption-key" ++ n) 48).take 32,
    n2 := fun k n => (hkdf384 [] k (str "paseto-encryption-key" ++ n) 48).drop 32,
    ak := fun k n => hkdf384 [] k (str "paseto-auth-key-for-aead" ++ n) 48,
    stream := aesCtr ctrBits,
    mac := hmac384 }

def v4Sym : SymPrims :=
  { ek := fun k n => (blake2b k 56 (str "paseto-encryption-key" ++ n)).take 32,
    n2 := fun k n => (blake2b k 56 (str "paseto-encryption-key" ++ n)).drop 32,
    ak := fun k n => blake2b k 32 (str "paseto-auth-key-for-aead" ++ n),
    stream := xchacha,
    mac := fun k m => blake2b k 32 m }

def v2Aead : AeadPrims := { stream := xcpStream, atag := xcpTag }

/-- v1: nonce = first 32 bytes of HMAC-SHA384(key = random bytes, message) -/
def v1Synth (r m : Bytes) : Bytes := (hmac384 r m).take 32
/-- v2: nonce = BLAKE2b-MAC(key = random bytes, 24 bytes, message) -/
def v2Synth (r m : Bytes) : Bytes := blake2b r 24 m
def noSynth (r _m : Bytes) : Bytes := r

/-- the local-token scheme of a version under the code choices `c` -/
def localSchemeOf (version : Nat) (c : BackendCfg) : LocalScheme :=
  match version with
  | 1 => symScheme (v1Sym c.ctrBits) 32 48 false c.short v1Synth
  | 2 => aeadScheme v2Aead 24 16 c.short v2Synth
  | 3 => symScheme (v3Sym c.ctrBits) 32 48 true c.short noSynth
  | _ => symScheme v4Sym 32 32 true c.short noSynth

/-- implementation model of a back end -/
def localScheme (b : Backend) : LocalScheme := localSchemeOf b.version (cfgOf b)
/-- specification model of a version (short-payload behaviour is not specified; taken from `c`) -/
def specLocalScheme (version : Nat) (short : BackendCfg) : LocalScheme :=
  localSchemeOf version { specCfg with sealShortPanics := short.sealShortPanics, sealShortErr := short.sealShortErr }

/-- token header fragments exactly as the code passes them: `["vN", encoding, ".local."]` -/
def tokHdr (b : Backend) (p : Purpose) : List Bytes :=
  [Extracted.versionHeader b, [], Extracted.kindHeader p.toKind]

/-- The length laws of a concrete primitive set are the length lemmas of its `stream` and `mac`.  Stated for an
    explicit constructor: elaborated against `SymLaws (v1Sym bits) 48` the fields are read off `v1Sym` before the
    lemmas are looked at.  (Proving `((v1Sym bits).mac k m).length = 48` by `fixLen_length _ _` directly makes the
    unifier unfold `hmac384`, not the projection, and evaluate SHA-384 on a variable.) -/
theorem SymLaws.of_fields {ek n2 ak : Bytes → Bytes → Bytes} {stream : Bytes → Bytes → Nat → Bytes}
    {mac : Bytes → Bytes → Bytes} {tagLen : Nat} (hm : ∀ k m, (mac k m).length = tagLen)
    (hs : ∀ k iv n, (stream k iv n).length = n) : SymLaws ⟨ek, n2, ak, stream, mac⟩ tagLen := ⟨hm, hs⟩

theorem v1Sym_laws (bits : Nat) : SymLaws (v1Sym bits) 48 := .of_fields hmac384_length (aesCtr_length bits)
theorem v3Sym_laws (bits : Nat) : SymLaws (v3Sym bits) 48 := .of_fields hmac384_length (aesCtr_length bits)
theorem v4Sym_laws : SymLaws v4Sym 32 := .of_fields (fun k => blake2b_length k 32) xchacha_length
theorem v2Aead_laws : AeadLaws v2Aead 16 := ⟨xcpTag_length, xcpStream_length⟩

theorem localSchemeOf_laws (version : Nat) (c : BackendCfg) : LocalLaws (localSchemeOf version c) := by
  unfold localSchemeOf
  split
  · exact symScheme_laws _ _ _ _ _ _ (v1Sym_laws _) fun r m _ => by simp [v1Synth]
  · exact aeadScheme_laws _ _ _ _ _ v2Aead_laws fun r m _ => blake2b_length r 24 m
  · exact symScheme_laws _ _ _ _ _ _ (v3Sym_laws _) fun _ _ h => h
  · exact symScheme_laws _ _ _ _ _ _ v4Sym_laws fun _ _ h => h

theorem Backend.mem_all (b : Backend) : b ∈ Backend.all := by cases b <;> decide

/-- of the code choices, a local scheme sees only the counter width and the short-payload behaviour -/
theorem localSchemeOf_congr (version : Nat) {c c' : BackendCfg} (hb : c.ctrBits = c'.ctrBits)
    (hs : c.short = c'.short) : localSchemeOf version c = localSchemeOf version c' := by
  unfold localSchemeOf; rw [hb, hs]

/-- configurations with the same counter width give the same scheme up to the short-payload behaviour.
    (Through `symScheme_short`, about variables: `rfl` on the concrete schemes evaluates the primitives.) -/
theorem localSchemeOf_short (version : Nat) {c c' : BackendCfg} (hb : c.ctrBits = c'.ctrBits) :
    localSchemeOf version c' = { localSchemeOf version c with shortPayload := c'.short } := by
  unfold localSchemeOf; rw [hb]
  split
  · exact symScheme_short ..
  · exact aeadScheme_short ..
  · exact symScheme_short ..
  · exact symScheme_short ..

/-- every version but 2 is encrypt-then-MAC -/
theorem localSchemeOf_sym (version : Nat) (c : BackendCfg) (hv : version ≠ 2) :
    ∃ P nonceLen tagLen hasAad synth, localSchemeOf version c = symScheme P nonceLen tagLen hasAad c.short synth := by
  unfold localSchemeOf
  split
  · exact ⟨_, _, _, _, _, rfl⟩
  · exact absurd rfl hv
  · exact ⟨_, _, _, _, _, rfl⟩
  · exact ⟨_, _, _, _, _, rfl⟩

end PM
