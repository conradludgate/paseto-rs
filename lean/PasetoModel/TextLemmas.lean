import PasetoModel.Text
import PasetoModel.B64.RoundTrip
import PasetoModel.B64.Alpha
/-! The text forms: each `FromStr` accepts exactly what the matching `Display` writes (`parse*_eq_ok`); for tokens, also
    that followed by one `.` when the footer is empty. -/
namespace PM
open B64

theorem splitOnce_none_of (c : UInt8) (s : Bytes) (h : c ∉ s) : splitOnce c s = none := by
  induction s with
  | nil => rfl
  | cons x xs ih =>
    simp only [List.mem_cons, not_or] at h
    simp [splitOnce, Ne.symm h.1, ih h.2]

theorem splitOnce_append (c : UInt8) (a b : Bytes) (h : c ∉ a) :
    splitOnce c (a ++ c :: b) = some (a, b) := by
  induction a with
  | nil => simp [splitOnce]
  | cons x xs ih =>
    simp only [List.mem_cons, not_or] at h
    simp [splitOnce, Ne.symm h.1, ih h.2]

theorem splitOnce_some {c : UInt8} {s a b : Bytes} (h : splitOnce c s = some (a, b)) :
    s = a ++ c :: b := by
  fun_induction splitOnce c s generalizing a with
  | case1 => cases h
  | case2 xs => cases h; rfl
  | case3 x xs hx a' b' hs ih => cases h; simp [ih hs]
  | case4 => cases h

theorem dot_not_mem_encode (bs : Bytes) : dot ∉ encode bs := fun h =>
  dot_not_alpha (encode_mem bs _ h)

theorem stripPrefix_append3 (a b c r : Bytes) :
    (stripPrefix a (a ++ b ++ c ++ r)) = some (b ++ c ++ r) := by
  rw [List.append_assoc, List.append_assoc, stripPrefix_append]; simp

theorem decodeInto_eq_some {cap : Nat} {s d : Bytes} : decodeInto cap s = some d ↔ encode d = s ∧ d.length ≤ cap := by
  unfold decodeInto
  by_cases e : encode d = s
  · subst e; simp [decodedLen_encode, decode_encode]
  · simp [e, decodeVec_eq_some_iff]

/-- `FromStr for SealedToken` accepts exactly what `Display` writes, and that followed by one `.` when the footer is
    empty (`v4.local.<payload>.` parses like `v4.local.<payload>`); the footer decoder must accept the footer -/
theorem parseToken_eq_ok {vh sf ph : Bytes} {fok : Bytes → Bool} {s : Bytes} {t : SealedTok} :
    parseToken vh sf ph fok s = .ok t ↔
      fok t.footer = true ∧
        (s = showToken vh sf ph t ∨ (t.footer = [] ∧ s = showToken vh sf ph t ++ [dot])) := by
  obtain ⟨p, f⟩ := t
  constructor
  · intro h
    unfold parseToken at h
    split at h; · cases h
    split at h; · cases h
    split at h; · cases h
    rename_i e1 _ _ e2 _ r e3
    rw [stripPrefix_some e1, stripPrefix_some e2, stripPrefix_some e3]
    rcases hso : splitOnce dot r with _ | ⟨a, b⟩
    · -- no `.` after the headers: all of `r` is the payload and the footer is empty
      rcases ep : decodeVec r with _ | p'
      · simp [hso, ep] at h
      simp only [hso, ep, Option.getD_none] at h
      split at h <;> cases h
      exact ⟨‹_›, .inl (by simp [showToken, encode_decode _ _ ep])⟩
    · -- `r = a ++ dot :: b`: payload `a`, footer `b`; an empty `b` is the trailing `.`
      rcases ep : decodeVec a with _ | p'
      · simp [hso, ep] at h
      rcases ef : decodeVec b with _ | f'
      · simp [hso, ep, ef] at h
      simp only [hso, ep, ef, Option.getD_some] at h
      split at h <;> cases h
      refine ⟨‹_›, ?_⟩
      rw [splitOnce_some hso, ← encode_decode _ _ ep, ← encode_decode _ _ ef]
      cases f with
      | nil => right; simp [showToken, encode]
      | cons _ _ => left; simp [showToken]
  · -- each of the three shapes is computed: the payload's encoding has no `.`, so the split is where it should be
    have hn := splitOnce_none_of _ _ (dot_not_mem_encode p)
    have hd := (splitOnce_append _ _ · (dot_not_mem_encode p))
    have h0 : decodeVec [] = some [] := decode_encode []
    rintro ⟨hf, rfl | ⟨rfl, rfl⟩⟩
    · cases f <;> simp [parseToken, showToken, List.append_assoc, stripPrefix_append, hn, hd, decode_encode, hf]
    · simp [parseToken, showToken, List.append_assoc, stripPrefix_append, hd, decode_encode, h0, hf]

theorem parseToken_showToken (vh sf ph : Bytes) (fok : Bytes → Bool) (t : SealedTok)
    (hf : fok t.footer = true) :
    parseToken vh sf ph fok (showToken vh sf ph t) = .ok t := parseToken_eq_ok.mpr ⟨hf, .inl rfl⟩

theorem showToken_parseToken (vh sf ph : Bytes) (fok : Bytes → Bool) (s : Bytes) (t : SealedTok)
    (h : parseToken vh sf ph fok s = .ok t) :
    showToken vh sf ph t = s ∨ showToken vh sf ph t ++ [dot] = s :=
  (parseToken_eq_ok.mp h).2.imp Eq.symm (·.2.symm)

theorem parseToken_ok_prefix {vh sf ph : Bytes} {fok : Bytes → Bool} {s : Bytes} {t : SealedTok}
    (h : parseToken vh sf ph fok s = .ok t) : vh ++ sf ++ ph <+: s := by
  rcases showToken_parseToken _ _ _ _ _ _ h with rfl | rfl <;> simp [showToken, List.append_assoc]

/-- `FromStr` accepts exactly what `Display` writes -/
theorem parseSimple_eq_ok {h1 h2 s d : Bytes} : parseSimple h1 h2 s = .ok d ↔ s = showSimple h1 h2 d := by
  unfold parseSimple showSimple
  constructor
  · intro h
    split at h; · cases h
    split at h; · cases h
    split at h; · cases h
    rename_i e1 _ _ e2 _ _ e3
    cases h
    rw [stripPrefix_some e1, stripPrefix_some e2, encode_decode _ _ e3, List.append_assoc]
  · rintro rfl
    simp [List.append_assoc, stripPrefix_append, decode_encode]

theorem parseSimple_showSimple (h1 h2 d : Bytes) : parseSimple h1 h2 (showSimple h1 h2 d) = .ok d :=
  parseSimple_eq_ok.mpr rfl

/-- a key id is accepted iff it is what `Display` writes for exactly 33 bytes -/
theorem parseKeyId_eq_ok {h1 h2 s d : Bytes} :
    parseKeyId h1 h2 s = .ok d ↔ s = showSimple h1 h2 d ∧ d.length = 33 := by
  unfold parseKeyId showSimple
  constructor
  · intro h
    split at h; · cases h
    split at h; · cases h
    split at h; · cases h
    split at h; · cases h
    rename_i e1 _ _ e2 _ _ e3 hl
    cases h
    rw [stripPrefix_some e1, stripPrefix_some e2, (decodeInto_eq_some.mp e3).1, List.append_assoc]
    exact ⟨rfl, by simpa using hl⟩
  · rintro ⟨rfl, hl⟩
    simp [List.append_assoc, stripPrefix_append, decodeInto_eq_some.mpr ⟨rfl, Nat.le_of_eq hl⟩, hl]

end PM
