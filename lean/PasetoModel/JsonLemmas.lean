import PasetoModel.Json
/-! Properties of the JSON text model: the escaping is decodable and leaves no raw quote / control byte inside a
    string literal; timestamps are written in the RFC 3339 character set and end in `Z`. -/
namespace PM.Json
open PM

theorem hex_roundtrip : ∀ n : Fin 32,
    unhexDigit (hexDigit (n.val / 16)) = some (n.val / 16) ∧ unhexDigit (hexDigit (n.val % 16)) = some (n.val % 16) := by
  decide

/-- the three shapes of an escaped byte: a two-character escape, `\u00XY`, or the byte itself -/
theorem escByte_cases (b : UInt8) :
    (∃ c, (b, c) ∈ [(34, 34), (92, 92), (8, 98), (12, 102), (10, 110), (13, 114), (9, 116)] ∧ escByte b = [92, c]) ∨
    (b < 32 ∧ escByte b = [92, 117, 48, 48, hexDigit (b.toNat / 16), hexDigit (b.toNat % 16)]) ∨
    (b ≠ 34 ∧ b ≠ 92 ∧ ¬ b < 32 ∧ escByte b = [b]) := by
  by_cases h34 : b = 34; · subst h34; exact .inl ⟨_, by decide, rfl⟩
  by_cases h92 : b = 92; · subst h92; exact .inl ⟨_, by decide, rfl⟩
  by_cases h8 : b = 8; · subst h8; exact .inl ⟨_, by decide, rfl⟩
  by_cases h12 : b = 12; · subst h12; exact .inl ⟨_, by decide, rfl⟩
  by_cases h10 : b = 10; · subst h10; exact .inl ⟨_, by decide, rfl⟩
  by_cases h13 : b = 13; · subst h13; exact .inl ⟨_, by decide, rfl⟩
  by_cases h9 : b = 9; · subst h9; exact .inl ⟨_, by decide, rfl⟩
  by_cases h32 : b < 32 <;> simp [escByte, *]

/-- the one-byte step: decoding what `escByte b` wrote gives `b` back and continues with the rest -/
theorem unescape_escByte (b : UInt8) (r : Bytes) :
    unescape (escByte b ++ r) = (unescape r).map (b :: ·) := by
  rcases escByte_cases b with ⟨c, hm, he⟩ | ⟨h32, he⟩ | ⟨h34, h92, h32, he⟩ <;> rw [he, unescape.eq_def]
  · simp only [List.mem_cons, Prod.mk.injEq, List.not_mem_nil, or_false] at hm
    rcases hm with ⟨rfl, rfl⟩ | ⟨rfl, rfl⟩ | ⟨rfl, rfl⟩ | ⟨rfl, rfl⟩ | ⟨rfl, rfl⟩ | ⟨rfl, rfl⟩ | ⟨rfl, rfl⟩ <;> simp
  · have hn : b.toNat < 32 := by simpa [UInt8.lt_iff_toNat_lt] using h32
    obtain ⟨hh, hl⟩ := hex_roundtrip ⟨b.toNat, hn⟩
    have hval : UInt8.ofNat (16 * (b.toNat / 16) + b.toNat % 16) = b := by
      rw [Nat.div_add_mod]; simp
    simp only at hh hl
    simp [hh, hl, hval]
  · simp [h34, h92, h32]

/-- **the escaping is decodable**: `unescape (escape s) = s` for every byte string -/
theorem unescape_escape (s : Bytes) : unescape (escape s) = some s := by
  induction s with
  | nil => rfl
  | cons b t ih => rw [escape, List.flatMap_cons, unescape_escByte, ← escape, ih]; rfl

/-- inside a string literal there is no raw control byte, and a quote only ever appears as the pair `\"` -/
theorem escByte_safe : ∀ n : Fin 256,
    (∀ c ∈ escByte (UInt8.ofNat n.val), 32 ≤ c.toNat) ∧
    (34 ∈ escByte (UInt8.ofNat n.val) → escByte (UInt8.ofNat n.val) = [92, 34]) := by decide +kernel

theorem escape_no_control (s : Bytes) : ∀ c ∈ escape s, 32 ≤ c.toNat := by
  intro c hc
  obtain ⟨b, _, hcb⟩ := List.mem_flatMap.1 hc
  exact (escByte_safe ⟨b.toNat, b.toNat_lt⟩).1 c (by simpa using hcb)

def isDigit (c : UInt8) : Prop := 48 ≤ c.toNat ∧ c.toNat ≤ 57

theorem pad_digits (w n : Nat) : ∀ c ∈ pad w n, isDigit c := by
  induction w generalizing n with
  | zero => simp [pad]
  | succ w ih =>
    simp only [pad, List.forall_mem_append, List.forall_mem_singleton]
    exact ⟨ih _, by simp only [isDigit, UInt8.toNat_ofNat']; omega⟩

/-- the characters a timestamp is written with: digits and `- : . T Z` -/
def tsChar (c : UInt8) : Prop := isDigit c ∨ c = 45 ∨ c = 58 ∨ c = 46 ∨ c = 84 ∨ c = 90

theorem fracDigits_chars (f : Nat) : ∀ c ∈ fracDigits f, tsChar c := by
  intro c hc
  unfold fracDigits at hc
  split at hc
  · simp at hc
  · simp only [List.mem_cons, List.mem_reverse] at hc
    rcases hc with h | h
    · exact .inr (.inr (.inr (.inl h)))
    · exact .inl (pad_digits 9 f c (by simpa using (List.dropWhile_sublist _).subset h))

theorem fmtTs_chars (ns : Int) : ∀ c ∈ fmtTs ns, tsChar c := by
  have hp : ∀ w n, ∀ c ∈ pad w n, tsChar c := fun w n c h => .inl (pad_digits w n c h)
  have hy : ∀ y : Int, ∀ c ∈ (if y < 0 then 45 :: pad 6 (-y).toNat else pad 4 y.toNat), tsChar c := by
    intro y; split
    · exact List.forall_mem_cons.2 ⟨by simp [tsChar], hp _ _⟩
    · exact hp _ _
  simp only [fmtTs, List.forall_mem_append, List.forall_mem_singleton, and_assoc]
  exact ⟨hy _, by simp [tsChar], hp _ _, by simp [tsChar], hp _ _, by simp [tsChar], hp _ _, by simp [tsChar], hp _ _,
    by simp [tsChar], hp _ _, fracDigits_chars _, by simp [tsChar]⟩

/-- every timestamp is written in UTC: the text ends in `Z` -/
theorem fmtTs_ends_Z (ns : Int) : ∃ body, fmtTs ns = body ++ [90] := by
  simp only [fmtTs]
  exact ⟨_, rfl⟩

end PM.Json
