import PasetoModel.Paserk
import PasetoModel.Asym
import PasetoModel.Prim.Argon2
/-! Concrete PASERK schemes of the six back ends. -/
namespace PM
open W

def argon2id (pw salt : Bytes) (t mKiB lanes : Nat) : Bytes :=
  fixLen 32 (ob (Prim.Argon2.argon2id (ba pw) (ba salt) t mKiB lanes 32))
def x25519 (scalar u : Bytes) : Bytes := fixLen 32 (ob (Prim.Ed25519.x25519 (ba scalar) (ba u)))
def edPkToX (pk : Bytes) : Bytes := fixLen 32 (ob (Prim.Ed25519.edPkToX (ba pk)))
def edSkToX (seed : Bytes) : Bytes := fixLen 32 (ob (Prim.Ed25519.edSkToX (ba seed)))
/-- X25519 base point u = 9 -/
def x25519Base : Bytes := 9 :: List.replicate 31 0

/-! ### PIE -/
/-- v1/v3: HMAC-SHA384(key, sep ‖ nonce); Ek = first 32, n2 = last 16; Ak = first 32 of the 0x81 output -/
def pieSymNist (ctrBits : Nat) : SymPrims :=
  { ek := fun k n => (hmac384 k (0x80 :: n)).take 32,
    n2 := fun k n => (hmac384 k (0x80 :: n)).drop 32,
    ak := fun k n => (hmac384 k (0x81 :: n)).take 32,
    stream := aesCtr ctrBits, mac := hmac384 }
/-- v2/v4: BLAKE2b-MAC(key, 56 / 32 bytes)(sep ‖ nonce) -/
def pieSymSodium : SymPrims :=
  { ek := fun k n => (blake2b k 56 (0x80 :: n)).take 32,
    n2 := fun k n => (blake2b k 56 (0x80 :: n)).drop 32,
    ak := fun k n => blake2b k 32 (0x81 :: n),
    stream := xchacha, mac := fun k m => blake2b k 32 m }

def pieSym (version : Nat) (c : BackendCfg) : SymPrims :=
  if version = 1 ∨ version = 3 then pieSymNist c.ctrBits else pieSymSodium
def pieTagLen (version : Nat) : Nat := if version = 1 ∨ version = 3 then 48 else 32

theorem pieSym_laws (version : Nat) (c : BackendCfg) : SymLaws (pieSym version c) (pieTagLen version) := by
  unfold pieSym pieTagLen
  split <;> constructor <;> simp [pieSymNist, pieSymSodium]

/-! ### PBKW -/
/-- PBKDF2 parameter block: iterations, big-endian u32 -/
def pbkdfKdf (c : BackendCfg) (pass salt params : Bytes) : Res Bytes :=
  let iters := fromBe params
  if iters = 0 ∧ c.pbkwRejectsZeroIter then .err .invalidKey
  else .ok (pbkdf2_384 pass salt (if iters = 0 then 1 else iters) 32)

/-- Argon2id parameter block: memory bytes (be64), time (be32), parallelism (be32) -/
def argonKdf (c : BackendCfg) (pass salt params : Bytes) : Res Bytes :=
  let mem := fromBe (params.take 8)
  let time := fromBe ((params.drop 8).take 4)
  let para := fromBe (params.drop 12)
  if c.argonParallel then
    -- RustCrypto argon2: memory must be a multiple of 1024 bytes; m ≥ 8, m ≥ 8·p, t ≥ 1, 1 ≤ p ≤ 2^24−1
    if c.argonMemMod1024 ∧ mem % 1024 ≠ 0 then .err .invalidKey else
    let m := mem / 1024
    if m ≥ 2 ^ 32 ∨ m < 8 ∨ m < (8 * para) % 2 ^ 32 ∨ time < 1 ∨ para < 1 ∨ para > 0xFFFFFF then .err .invalidKey
    else .ok (argon2id pass salt time m para)
  else
    -- libsodium crypto_pwhash: parallelism fixed to 1; memory floored to KiB; limits checked by libsodium
    if para ≠ 1 then .err .invalidKey else
    let m := mem / 1024
    if mem < 8192 ∨ time < 1 ∨ m ≥ 2 ^ 22 then .err .crypto
    else .ok (argon2id pass salt time m 1)

def pbkwSchemeOf (version : Nat) (c : BackendCfg) : PbkwScheme :=
  if version = 1 ∨ version = 3 then
    { saltLen := 32, paramLen := 4, nonceLen := 16, tagLen := 48,
      kdf := pbkdfKdf c,
      ek := fun k => (sha384 (0xFF :: k)).take 32, ak := fun k => sha384 (0xFE :: k),
      stream := aesCtr c.ctrBits, mac := hmac384 }
  else
    { saltLen := 16, paramLen := 16, nonceLen := 24, tagLen := 32,
      kdf := argonKdf c,
      ek := fun k => blake2b [] 32 (0xFF :: k), ak := fun k => blake2b [] 32 (0xFE :: k),
      stream := xchacha, mac := fun k m => blake2b k 32 m }

theorem pbkwSchemeOf_laws (version : Nat) (c : BackendCfg) : PbkwLaws (pbkwSchemeOf version c) := by
  unfold pbkwSchemeOf
  split <;> constructor <;> simp

/-! ### PKE -/

/-- v2/v4: X25519 on the birationally mapped Ed25519 keys.  context = xk ‖ epk ‖ xpk -/
def pkeSodium (c : BackendCfg) (hdr : Bytes) : PkeScheme :=
  { tagLen := 32, encLen := 32, encLast := false, hdr,
    encap := fun pk rnd =>
      let xpk := edPkToX pk
      let epk := x25519 rnd x25519Base
      .ok (epk, x25519 rnd xpk ++ epk ++ xpk),
    decap := fun sk epk =>
      -- dalek: public key recomputed from the scalar; libsodium: the stored public half
      let xpk := edPkToX (if c.skChecksPubHalf then edPub (sk.take 32) else sk.drop 32)
      .ok (x25519 (edSkToX (sk.take 32)) epk ++ epk ++ xpk),
    ek := fun ctx => blake2b [] 32 (0x01 :: hdr ++ ctx),
    nonce := fun ctx => blake2b [] 24 (ctx.drop 32),
    ak := fun ctx => blake2b [] 32 (0x02 :: hdr ++ ctx),
    stream := xchacha, mac := fun k m => blake2b k 32 m }

/-- v3: ECDH on P-384.  context = xk ‖ epk ‖ pk (compressed points) -/
def pkeP384 (c : BackendCfg) (hdr : Bytes) : PkeScheme :=
  { tagLen := 48, encLen := 49, encLast := false, hdr,
    encap := fun pk rnd =>
      let d := fromBe rnd
      match p384Decode pk, p384Pub d with
      | .point Q, some epk =>
        match Prim.P384.ecdh d Q with
        | some xk => .ok (epk, fixLen 48 (ob xk) ++ epk ++ pk)
        | none => .err .crypto
      | _, _ => .err .crypto,
    decap := fun sk epk =>
      let d := fromBe sk
      match p384Decode epk, p384Pub d with
      | .point Q, some pk =>
        match Prim.P384.ecdh d Q with
        | some xk => .ok (fixLen 48 (ob xk) ++ epk ++ pk)
        | none => .err .crypto
      | _, _ => .err .crypto,
    ek := fun ctx => (sha384 (0x01 :: hdr ++ ctx)).take 32,
    nonce := fun ctx => (sha384 (0x01 :: hdr ++ ctx)).drop 32,
    ak := fun ctx => sha384 (0x02 :: hdr ++ ctx),
    stream := aesCtr c.ctrBits, mac := hmac384 }

/-- v1: RSA-KEM with a 4096-bit key.  context = c ‖ r (c as serialised, r minimal big-endian) -/
def pkeRsa (c : BackendCfg) (hdr : Bytes) : PkeScheme :=
  { tagLen := 48, encLen := 512, encLast := true, hdr,
    encap := fun pk rnd =>
      match Der.parseSpkiRsa pk with
      | none => .err .crypto
      | some (n, e) =>
        -- r: 512 random bytes with the top two bits forced to 01
        let r := match fixLen 512 rnd with
          | b :: rest => ((b &&& 0x7f) ||| 0x40) :: rest
          | [] => []
        let cv := Der.powMod (fromBe r) e n
        let cb := if c.kemCtPadded then natToBe 512 cv else natToBeMin cv
        .ok (cb, cb ++ r),
    decap := fun sk cb =>
      match Der.parsePkcs1 sk with
      | none => .err .crypto
      | some k =>
        let cv := fromBe cb
        if cv ≥ k.n then .err .crypto else
        .ok (cb ++ natToBeMin (Der.powMod cv k.d k.n)),
    -- k = SHA-384(c); (Ek ‖ n) = HMAC(k, 0x01 ‖ h ‖ r); Ak = HMAC(k, 0x02 ‖ h ‖ r)
    ek := fun ctx => (hmac384 (sha384 (ctx.take 512)) (0x01 :: hdr ++ ctx.drop 512)).take 32,
    nonce := fun ctx => (hmac384 (sha384 (ctx.take 512)) (0x01 :: hdr ++ ctx.drop 512)).drop 32,
    ak := fun ctx => hmac384 (sha384 (ctx.take 512)) (0x02 :: hdr ++ ctx.drop 512),
    stream := aesCtr c.ctrBits, mac := hmac384 }

def pkeSchemeOf (version : Nat) (c : BackendCfg) (hdr : Bytes) : PkeScheme :=
  match version with
  | 1 => pkeRsa c hdr
  | 3 => pkeP384 c hdr
  | _ => pkeSodium c hdr

/-! ### per back end -/
def sealHdr (b : Backend) : Bytes := Extracted.paserkHeader b ++ Extracted.sealHeader b

def pieOf (b : Backend) : SymPrims := pieSym b.version (cfgOf b)
def pbkwOf (b : Backend) : PbkwScheme := pbkwSchemeOf b.version (cfgOf b)
def pkeOf (b : Backend) : PkeScheme := pkeSchemeOf b.version (cfgOf b) (sealHdr b)

/-- `IdVersion::hash_key`: SHA-384 truncated to 33 bytes (v1, v3) / BLAKE2b-33 (v2, v4) -/
def hash33 (version : Nat) (m : Bytes) : Bytes :=
  if version = 1 ∨ version = 3 then (sha384 m).take 33 else blake2b [] 33 m

theorem hash33_length (version : Nat) (m : Bytes) : (hash33 version m).length = 33 := by
  unfold hash33; split <;> simp

end PM
