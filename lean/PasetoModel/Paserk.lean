import PasetoModel.Local
/-! PASERK operations: PIE (symmetric wrap), PBKW (password wrap), PKE (seal to a public key), key ids.
    Generic skeletons + laws + theorems; concrete instances in `PaserkInst.lean`. -/
namespace PM

/-! ## PIE: `*/src/core/pie_wrap.rs` -/

/-- `pie_wrap_key`: tag ‖ nonce ‖ ciphertext; MAC over version ‖ header ‖ nonce ‖ ciphertext -/
def pieWrap (P : SymPrims) (ver hdr wk nonce key : Bytes) : Bytes :=
  let c := symEnc P wk nonce key
  P.mac (P.ak wk nonce) (ver ++ hdr ++ nonce ++ c) ++ nonce ++ c

/-- `pie_unwrap_key` -/
def pieUnwrap (P : SymPrims) (tagLen : Nat) (ver hdr wk blob : Bytes) : Res Bytes :=
  match splitFirst tagLen blob with
  | none => .err .invalidKey
  | some (t, rest) =>
    match splitFirst 32 rest with
    | none => .err .invalidKey
    | some (n, c) =>
      if tagEq (P.mac (P.ak wk n) (ver ++ hdr ++ n ++ c)) t then .ok (symEnc P wk n c) else .err .crypto

/-- `match o with | none => Err(e) | some (x, y) => k x y` is `o.ok_or(e)?` followed by `k`; with `splitFirst_eq_some`,
    `splitLast_eq_some`, `exists_cut_cut`, `Res.bind_eq_ok` and `tagChecked_ok` it rewrites each unwrap below into the
    statement of what it accepts.
    Trap: it rewrites the `match`es of `pieUnwrap`, `pbkwUnwrap`, `pkeUnseal` only because Lean compiles all of them to one
    auxiliary matcher, which it does within a module and not across modules: the lemma has to stay in this file, after `pieUnwrap`. -/
theorem cut_ok_iff {o : Option (Bytes × Bytes)} {e : Err} {k : Bytes → Bytes → Res Bytes} {r : Bytes} :
    (match o with | none => Res.err e | some (x, y) => k x y) = .ok r ↔ ∃ x y, o = some (x, y) ∧ k x y = .ok r := by
  rcases o with _ | ⟨x, y⟩ <;> simp [and_assoc]

/-- two cuts in a row: the remainder of the first is named only to be cut again, so the three parts stand in one equation
    (`f` is `++`, or for PKE the order its layout prescribes) -/
theorem exists_cut_cut {l : Bytes} {f : Bytes → Bytes → Bytes} {P : Bytes → Prop} {Q : Bytes → Bytes → Prop}
    {R : Bytes → Bytes → Bytes → Prop} :
    (∃ x rest, (l = x ++ rest ∧ P x) ∧ ∃ y z, (rest = f y z ∧ Q y z) ∧ R x y z) ↔
      ∃ x y z, l = x ++ f y z ∧ P x ∧ Q y z ∧ R x y z :=
  ⟨fun ⟨x, _, ⟨hl, hx⟩, y, z, ⟨e, hq⟩, hr⟩ => ⟨x, y, z, e ▸ hl, hx, hq, hr⟩,
   fun ⟨x, y, z, hl, hx, hq, hr⟩ => ⟨x, f y z, ⟨hl, hx⟩, y, z, ⟨rfl, hq⟩, hr⟩⟩

theorem pieUnwrap_ok_iff (P : SymPrims) (tagLen : Nat) (ver hdr wk blob key : Bytes) :
    pieUnwrap P tagLen ver hdr wk blob = .ok key ↔
      ∃ t n c, blob = t ++ n ++ c ∧ t.length = tagLen ∧ n.length = 32 ∧
        t = P.mac (P.ak wk n) (ver ++ hdr ++ n ++ c) ∧ key = symEnc P wk n c := by
  simp only [pieUnwrap, cut_ok_iff, splitFirst_eq_some, tagChecked_ok, exists_cut_cut, List.append_assoc]

/-- what `pieWrap` writes is accepted, and decrypting twice is the identity -/
theorem pie_roundtrip (P : SymPrims) (tagLen : Nat) (L : SymLaws P tagLen) (ver hdr wk nonce key : Bytes)
    (hn : nonce.length = 32) : pieUnwrap P tagLen ver hdr wk (pieWrap P ver hdr wk nonce key) = .ok key :=
  (pieUnwrap_ok_iff ..).mpr ⟨_, nonce, _, rfl, L.mac_len _ _, hn, rfl, (symEnc_symEnc P L ..).symm⟩

theorem pie_len (P : SymPrims) (tagLen : Nat) (L : SymLaws P tagLen) (ver hdr wk nonce key : Bytes)
    (hn : nonce.length = 32) : (pieWrap P ver hdr wk nonce key).length = tagLen + 32 + key.length := by
  simp [pieWrap, L.mac_len, hn, symEnc_length P L, Nat.add_assoc]

/-! ## PBKW: `*/src/core/pw_wrap.rs` -/

structure PbkwScheme where
  saltLen : Nat
  paramLen : Nat
  nonceLen : Nat
  tagLen : Nat
  /-- password KDF with the parameter block as found in the blob; may reject parameters -/
  kdf : Bytes → Bytes → Bytes → Res Bytes           -- pass salt params
  ek : Bytes → Bytes
  ak : Bytes → Bytes
  stream : Bytes → Bytes → Nat → Bytes
  mac : Bytes → Bytes → Bytes

def PbkwScheme.prefixLen (S : PbkwScheme) : Nat := S.saltLen + S.paramLen + S.nonceLen

structure PbkwLaws (S : PbkwScheme) : Prop where
  mac_len : ∀ k m, (S.mac k m).length = S.tagLen
  stream_len : ∀ k iv n, (S.stream k iv n).length = n

def pbkwEnc (S : PbkwScheme) (k nonce data : Bytes) : Bytes := xor data (S.stream (S.ek k) nonce data.length)

/-- `pw_wrap_key`: prefix (salt ‖ params ‖ nonce) ‖ ciphertext ‖ tag -/
def pbkwWrap (S : PbkwScheme) (ver hdr pass salt params nonce key : Bytes) : Res Bytes :=
  let pre := salt ++ params ++ nonce
  (S.kdf pass salt params).map fun k =>
    let c := pbkwEnc S k nonce key
    pre ++ c ++ S.mac (S.ak k) (ver ++ hdr ++ pre ++ c)

/-- `pw_unwrap_key` -/
def pbkwUnwrap (S : PbkwScheme) (ver hdr pass blob : Bytes) : Res Bytes :=
  match splitFirst S.prefixLen blob with
  | none => .err .invalidKey
  | some (pre, rest) =>
    match splitLast S.tagLen rest with
    | none => .err .invalidKey
    | some (c, t) =>
      let salt := pre.take S.saltLen
      let params := (pre.drop S.saltLen).take S.paramLen
      let nonce := pre.drop (S.saltLen + S.paramLen)
      (S.kdf pass salt params).bind fun k =>
        if tagEq (S.mac (S.ak k) (ver ++ hdr ++ pre ++ c)) t then .ok (pbkwEnc S k nonce c) else .err .crypto

theorem pbkwEnc_length (S : PbkwScheme) (L : PbkwLaws S) (k n d : Bytes) : (pbkwEnc S k n d).length = d.length :=
  xor_keystream_length (L.stream_len _ _) d

theorem pbkwEnc_pbkwEnc (S : PbkwScheme) (L : PbkwLaws S) (k n d : Bytes) : pbkwEnc S k n (pbkwEnc S k n d) = d :=
  xor_keystream_twice (L.stream_len _ _) d

theorem pbkwUnwrap_ok_iff (S : PbkwScheme) (ver hdr pass blob key : Bytes) :
    pbkwUnwrap S ver hdr pass blob = .ok key ↔
      ∃ pre c t k, blob = pre ++ c ++ t ∧ pre.length = S.prefixLen ∧ t.length = S.tagLen ∧
        S.kdf pass (pre.take S.saltLen) ((pre.drop S.saltLen).take S.paramLen) = .ok k ∧
        t = S.mac (S.ak k) (ver ++ hdr ++ pre ++ c) ∧
        key = pbkwEnc S k (pre.drop (S.saltLen + S.paramLen)) c := by
  simp only [pbkwUnwrap, cut_ok_iff, splitFirst_eq_some, splitLast_eq_some, Res.bind_eq_ok, tagChecked_ok, exists_cut_cut,
    List.append_assoc, exists_and_left]

/-- salt, parameters and nonce are read back from the prefix at their fixed offsets -/
theorem pbkw_prefix_fields {a b : Nat} {salt params nonce : Bytes} (hs : salt.length = a) (hp : params.length = b) :
    (salt ++ params ++ nonce).take a = salt ∧ ((salt ++ params ++ nonce).drop a).take b = params ∧
      (salt ++ params ++ nonce).drop (a + b) = nonce := by
  subst hs hp; simp [List.append_assoc]

theorem pbkw_roundtrip (S : PbkwScheme) (L : PbkwLaws S) (ver hdr pass salt params nonce key blob : Bytes)
    (hs : salt.length = S.saltLen) (hp : params.length = S.paramLen) (hn : nonce.length = S.nonceLen)
    (h : pbkwWrap S ver hdr pass salt params nonce key = .ok blob) :
    pbkwUnwrap S ver hdr pass blob = .ok key := by
  obtain ⟨k, hk, rfl⟩ := Res.map_eq_ok.mp h
  obtain ⟨e1, e2, e3⟩ := pbkw_prefix_fields (nonce := nonce) hs hp
  refine (pbkwUnwrap_ok_iff ..).mpr ⟨salt ++ params ++ nonce, _, _, k, rfl, ?_, L.mac_len _ _, ?_, rfl, ?_⟩
  · simp [PbkwScheme.prefixLen, hs, hp, hn, Nat.add_assoc]
  · rw [e1, e2, hk]
  · rw [e3, pbkwEnc_pbkwEnc S L]

theorem pbkw_len (S : PbkwScheme) (L : PbkwLaws S) (ver hdr pass salt params nonce key blob : Bytes)
    (hs : salt.length = S.saltLen) (hp : params.length = S.paramLen) (hn : nonce.length = S.nonceLen)
    (h : pbkwWrap S ver hdr pass salt params nonce key = .ok blob) :
    blob.length = S.prefixLen + key.length + S.tagLen := by
  obtain ⟨k, -, rfl⟩ := Res.map_eq_ok.mp h
  simp [PbkwScheme.prefixLen, hs, hp, hn, L.mac_len, pbkwEnc_length S L, Nat.add_assoc]

/-! ## PKE: `*/src/core/pke.rs` -/

structure PkeScheme where
  tagLen : Nat
  /-- length of the encapsulation (ephemeral public key, or RSA-KEM ciphertext) in a valid blob -/
  encLen : Nat
  /-- v1 layout: tag ‖ edk ‖ c ; others: tag ‖ epk ‖ edk -/
  encLast : Bool
  hdr : Bytes                                       -- "kN.seal."
  /-- encapsulate to a public key with randomness: (encapsulation bytes, key-derivation context) -/
  encap : Bytes → Bytes → Res (Bytes × Bytes)
  /-- recover the context from the recipient secret key and the encapsulation -/
  decap : Bytes → Bytes → Res Bytes
  ek : Bytes → Bytes
  nonce : Bytes → Bytes
  ak : Bytes → Bytes
  stream : Bytes → Bytes → Nat → Bytes
  mac : Bytes → Bytes → Bytes

structure PkeLaws (S : PkeScheme) (pubOf : Bytes → Bytes) : Prop where
  mac_len : ∀ k m, (S.mac k m).length = S.tagLen
  stream_len : ∀ k iv n, (S.stream k iv n).length = n
  /-- the encapsulation has the fixed length the format prescribes -/
  enc_len : ∀ pk r e ctx, S.encap pk r = .ok (e, ctx) → e.length = S.encLen
  /-- the recipient derives the same context (Diffie–Hellman / RSA correctness) -/
  decap_encap : ∀ sk r e ctx, S.encap (pubOf sk) r = .ok (e, ctx) → S.decap sk e = .ok ctx

def pkeEnc (S : PkeScheme) (ctx d : Bytes) : Bytes := xor d (S.stream (S.ek ctx) (S.nonce ctx) d.length)

/-- `seal_key` -/
def pkeSeal (S : PkeScheme) (pk key rnd : Bytes) : Res Bytes :=
  (S.encap pk rnd).map fun (e, ctx) =>
    let edk := pkeEnc S ctx key
    let tag := S.mac (S.ak ctx) (S.hdr ++ e ++ edk)
    if S.encLast then tag ++ edk ++ e else tag ++ e ++ edk

/-- `unseal_key`; the encrypted data key must be exactly 32 bytes -/
def pkeUnseal (S : PkeScheme) (sk blob : Bytes) : Res Bytes :=
  match splitFirst S.tagLen blob with
  | none => .err .invalidKey
  | some (tag, rest) =>
    let parts : Option (Bytes × Bytes) :=            -- (encapsulation, edk)
      if S.encLast then (splitLast S.encLen rest).map (fun (edk, e) => (e, edk))
      else splitFirst S.encLen rest
    match parts with
    | none => .err .invalidKey
    | some (e, edk) =>
      if edk.length ≠ 32 then .err .invalidKey else
      (S.decap sk e).bind fun ctx =>
        if tagEq (S.mac (S.ak ctx) (S.hdr ++ e ++ edk)) tag then .ok (pkeEnc S ctx edk) else .err .crypto

theorem pkeEnc_length (S : PkeScheme) {p : Bytes → Bytes} (L : PkeLaws S p) (ctx d : Bytes) :
    (pkeEnc S ctx d).length = d.length := xor_keystream_length (L.stream_len _ _) d

theorem pkeEnc_pkeEnc (S : PkeScheme) {p : Bytes → Bytes} (L : PkeLaws S p) (ctx d : Bytes) :
    pkeEnc S ctx (pkeEnc S ctx d) = d := xor_keystream_twice (L.stream_len _ _) d

/-- the two layouts read as one: what `unseal_key` cuts off after the tag is what `seal_key` put there -/
theorem pkeParts_eq_some (S : PkeScheme) (rest e edk : Bytes) :
    (if S.encLast then (splitLast S.encLen rest).map (fun (edk, e) => (e, edk)) else splitFirst S.encLen rest)
        = some (e, edk) ↔ rest = (if S.encLast then edk ++ e else e ++ edk) ∧ e.length = S.encLen := by
  cases S.encLast
  · simp [splitFirst_eq_some]
  · simp [splitLast_eq_some, and_assoc, and_comm]

theorem pkeUnseal_ok_iff (S : PkeScheme) (sk blob key : Bytes) :
    pkeUnseal S sk blob = .ok key ↔
      ∃ tag e edk ctx, blob = (if S.encLast then tag ++ edk ++ e else tag ++ e ++ edk) ∧
        tag.length = S.tagLen ∧ e.length = S.encLen ∧ edk.length = 32 ∧
        S.decap sk e = .ok ctx ∧ tag = S.mac (S.ak ctx) (S.hdr ++ e ++ edk) ∧ key = pkeEnc S ctx edk := by
  have layout (tag e edk : Bytes) : tag ++ (if S.encLast then edk ++ e else e ++ edk) =
      if S.encLast then tag ++ edk ++ e else tag ++ e ++ edk := by split <;> simp
  simp only [pkeUnseal, cut_ok_iff, splitFirst_eq_some, pkeParts_eq_some, guard_ok_iff, ne_eq, Decidable.not_not,
    Res.bind_eq_ok, tagChecked_ok, exists_cut_cut, ← layout, exists_and_left]

/-- sealed keys have one length: a blob the recipient accepts is exactly tag ‖ encapsulation ‖ 32 bytes long, so a blob
    with a byte removed or inserted *anywhere* (a leading zero of an RSA ciphertext, say) is never accepted -/
theorem pkeUnseal_ok_length (S : PkeScheme) (sk blob key : Bytes) (h : pkeUnseal S sk blob = .ok key) :
    blob.length = S.tagLen + S.encLen + 32 := by
  obtain ⟨tag, e, edk, ctx, rfl, ht, he, hd, -⟩ := (pkeUnseal_ok_iff ..).mp h
  split <;> simp only [List.length_append, ht, he, hd] <;> omega

theorem pke_roundtrip (S : PkeScheme) (pubOf : Bytes → Bytes) (L : PkeLaws S pubOf) (sk key rnd blob : Bytes)
    (hk : key.length = 32) (h : pkeSeal S (pubOf sk) key rnd = .ok blob) :
    pkeUnseal S sk blob = .ok key ∧ blob.length = S.tagLen + S.encLen + 32 := by
  obtain ⟨⟨e, ctx⟩, he, rfl⟩ := Res.map_eq_ok.mp h
  have hu := (pkeUnseal_ok_iff S sk _ key).mpr ⟨_, e, _, ctx, rfl, L.mac_len _ _, L.enc_len _ _ _ _ he,
    by rw [pkeEnc_length S L, hk], L.decap_encap _ _ _ _ he, rfl, (pkeEnc_pkeEnc S L ..).symm⟩
  exact ⟨hu, pkeUnseal_ok_length _ _ _ _ hu⟩

/-! ## key ids: `paserk/id.rs` + `IdVersion::hash_key` -/

/-- `KeyId::from(&KeyText)`: hash of PASERK version ‖ id header ‖ the key's PASERK text, 33 bytes -/
def keyIdOf (hash33 : Bytes → Bytes) (ver idHdr keyText : Bytes) : Bytes := hash33 (ver ++ idHdr ++ keyText)

end PM
