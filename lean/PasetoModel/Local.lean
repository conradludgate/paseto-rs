import PasetoModel.Pae
/-! Local (symmetric) tokens: one skeleton for `*/src/core/local.rs` of all six back ends.
    The skeleton is parametric in a `LocalScheme` (lengths, aad policy, synthetic nonce, cipher,
    tag); theorems are proved for every scheme satisfying `LocalLaws`. -/
namespace PM

structure LocalScheme where
  nonceLen : Nat
  tagLen : Nat
  hasAad : Bool
  /-- what `dangerous_seal_with_nonce` does when the payload is shorter than the nonce
      (`split_at_mut` panics; `split_first_chunk_mut().ok_or(..)` returns an error) -/
  shortPayload : Res Bytes
  /-- v1/v2: the nonce actually used is a MAC of the message keyed by the random bytes -/
  synth : Bytes → Bytes → Bytes
  enc : Bytes → Bytes → Bytes → Bytes                       -- key nonce message
  dec : Bytes → Bytes → Bytes → Bytes                       -- key nonce ciphertext
  tag : Bytes → List Bytes → Bytes → Bytes → Bytes → Bytes → Bytes   -- key hdr nonce ct footer aad

structure LocalLaws (S : LocalScheme) : Prop where
  tag_len : ∀ k h n c f a, (S.tag k h n c f a).length = S.tagLen
  synth_len : ∀ r m, r.length = S.nonceLen → (S.synth r m).length = S.nonceLen
  dec_enc : ∀ k n m, S.dec k n (S.enc k n m) = m

/-- `SealingVersion<Local>::dangerous_seal_with_nonce`: `payload` = nonce bytes ‖ encoded claims -/
def sealLocal (S : LocalScheme) (hdr : List Bytes) (k payload f a : Bytes) : Res Bytes :=
  if !S.hasAad && !a.isEmpty then .err .claims else
  match splitFirst S.nonceLen payload with
  | none => S.shortPayload
  | some (n0, m) =>
    let n := S.synth n0 m
    let c := S.enc k n m
    .ok (n ++ c ++ S.tag k hdr n c f a)

/-- `UnsealingVersion<Local>::unseal` -/
def unsealLocal (S : LocalScheme) (hdr : List Bytes) (k payload f a : Bytes) : Res Bytes :=
  if !S.hasAad && !a.isEmpty then .err .claims else
  match splitLast S.tagLen payload with
  | none => .err .invalidToken
  | some (rest, t) =>
    match splitFirst S.nonceLen rest with
    | none => .err .invalidToken
    | some (n, c) =>
      if tagEq (S.tag k hdr n c f a) t then .ok (S.dec k n c) else .err .crypto

/-! ### the two constructions -/

/-- encrypt-then-MAC with derived keys (v1, v3, v4 and their siblings) -/
structure SymPrims where
  ek : Bytes → Bytes → Bytes            -- key, nonce ↦ encryption key
  n2 : Bytes → Bytes → Bytes            -- key, nonce ↦ cipher nonce / counter block
  ak : Bytes → Bytes → Bytes            -- key, nonce ↦ authentication key
  stream : Bytes → Bytes → Nat → Bytes  -- cipher key, cipher nonce, length ↦ keystream
  mac : Bytes → Bytes → Bytes

structure SymLaws (P : SymPrims) (tagLen : Nat) : Prop where
  mac_len : ∀ k m, (P.mac k m).length = tagLen
  stream_len : ∀ k iv n, (P.stream k iv n).length = n

def symEnc (P : SymPrims) (k n m : Bytes) : Bytes := xor m (P.stream (P.ek k n) (P.n2 k n) m.length)

/-- the authenticated input: PAE of header (three fragments), nonce, ciphertext, footer and — for
    versions with implicit assertions — the assertion -/
def symPieces (hasAad : Bool) (hdr : List Bytes) (n c f a : Bytes) : List (List Bytes) :=
  if hasAad then [hdr, [n], [c], [f], [a]] else [hdr, [n], [c], [f]]

def symScheme (P : SymPrims) (nonceLen tagLen : Nat) (hasAad : Bool) (short : Res Bytes)
    (synth : Bytes → Bytes → Bytes) : LocalScheme :=
  { nonceLen, tagLen, hasAad, shortPayload := short, synth,
    enc := symEnc P, dec := symEnc P,
    tag := fun k hdr n c f a => P.mac (P.ak k n) (pae (symPieces hasAad hdr n c f a)) }

/-- AEAD (v2): XChaCha20-Poly1305 with the PAE of header, nonce and footer as associated data -/
structure AeadPrims where
  stream : Bytes → Bytes → Nat → Bytes              -- key, nonce, length
  atag : Bytes → Bytes → Bytes → Bytes → Bytes      -- key, nonce, aad, ciphertext

structure AeadLaws (A : AeadPrims) (tagLen : Nat) : Prop where
  tag_len : ∀ k n a c, (A.atag k n a c).length = tagLen
  stream_len : ∀ k n l, (A.stream k n l).length = l

def aeadEnc (A : AeadPrims) (k n m : Bytes) : Bytes := xor m (A.stream k n m.length)

def aeadScheme (A : AeadPrims) (nonceLen tagLen : Nat) (short : Res Bytes)
    (synth : Bytes → Bytes → Bytes) : LocalScheme :=
  { nonceLen, tagLen, hasAad := false, shortPayload := short, synth,
    enc := aeadEnc A, dec := aeadEnc A,
    tag := fun k hdr n c f _ => A.atag k n (pae [hdr, [n], [f]]) c }

theorem symEnc_length (P : SymPrims) {t : Nat} (L : SymLaws P t) (k n m : Bytes) :
    (symEnc P k n m).length = m.length := xor_keystream_length (L.stream_len _ _) m

theorem symEnc_symEnc (P : SymPrims) {t : Nat} (L : SymLaws P t) (k n m : Bytes) :
    symEnc P k n (symEnc P k n m) = m := xor_keystream_twice (L.stream_len _ _) m

theorem symScheme_laws (P : SymPrims) (nonceLen tagLen : Nat) (hasAad : Bool) (short : Res Bytes)
    (synth : Bytes → Bytes → Bytes) (L : SymLaws P tagLen)
    (hs : ∀ r m, r.length = nonceLen → (synth r m).length = nonceLen) :
    LocalLaws (symScheme P nonceLen tagLen hasAad short synth) :=
  { tag_len := fun _ _ _ _ _ _ => L.mac_len _ _,
    synth_len := hs,
    dec_enc := symEnc_symEnc P L }

theorem aeadEnc_aeadEnc (A : AeadPrims) {t : Nat} (L : AeadLaws A t) (k n m : Bytes) :
    aeadEnc A k n (aeadEnc A k n m) = m := xor_keystream_twice (L.stream_len _ _) m

theorem aeadScheme_laws (A : AeadPrims) (nonceLen tagLen : Nat) (short : Res Bytes)
    (synth : Bytes → Bytes → Bytes) (L : AeadLaws A tagLen)
    (hs : ∀ r m, r.length = nonceLen → (synth r m).length = nonceLen) :
    LocalLaws (aeadScheme A nonceLen tagLen short synth) :=
  { tag_len := fun _ _ _ _ _ _ => L.tag_len _ _ _ _,
    synth_len := hs,
    dec_enc := aeadEnc_aeadEnc A L }

/-- `seal` on a payload that starts with a nonce of the right length -/
theorem sealLocal_append (S : LocalScheme) (hdr : List Bytes) (k n0 m f a : Bytes) (hn : n0.length = S.nonceLen) :
    sealLocal S hdr k (n0 ++ m) f a =
      if S.hasAad = true ∨ a = [] then
        .ok (S.synth n0 m ++ S.enc k (S.synth n0 m) m ++ S.tag k hdr (S.synth n0 m) (S.enc k (S.synth n0 m) m) f a)
      else .err .claims := by
  unfold sealLocal
  rw [splitFirst_append _ _ _ hn, ← ite_not]
  simp only [Bool.not_eq_true, aadRefused_eq_false]

/-- what `dangerous_seal_with_nonce` does with a too-short payload is the only use of `shortPayload` -/
theorem sealLocal_shortPayload (S : LocalScheme) (x : Res Bytes) (hdr : List Bytes) (k payload f a : Bytes)
    (hl : S.nonceLen ≤ payload.length) :
    sealLocal { S with shortPayload := x } hdr k payload f a = sealLocal S hdr k payload f a := by
  unfold sealLocal
  cases h : splitFirst S.nonceLen payload with
  | none => exact absurd (splitFirst_none.mp h) (by omega)
  | some p => rfl

theorem symScheme_short (P : SymPrims) (nonceLen tagLen : Nat) (hasAad : Bool) (s s' : Res Bytes)
    (synth : Bytes → Bytes → Bytes) :
    symScheme P nonceLen tagLen hasAad s' synth = { symScheme P nonceLen tagLen hasAad s synth with shortPayload := s' } :=
  rfl

theorem aeadScheme_short (A : AeadPrims) (nonceLen tagLen : Nat) (s s' : Res Bytes) (synth : Bytes → Bytes → Bytes) :
    aeadScheme A nonceLen tagLen s' synth = { aeadScheme A nonceLen tagLen s synth with shortPayload := s' } := rfl

theorem unsealLocal_ok_iff (S : LocalScheme) (hdr : List Bytes) (k payload f a m : Bytes) :
    unsealLocal S hdr k payload f a = .ok m ↔
      (S.hasAad = true ∨ a = []) ∧
      ∃ n c t, payload = n ++ c ++ t ∧ n.length = S.nonceLen ∧ t.length = S.tagLen ∧
        t = S.tag k hdr n c f a ∧ m = S.dec k n c := by
  unfold unsealLocal
  rw [guard_ok_iff, Bool.not_eq_true, aadRefused_eq_false]
  refine and_congr_right fun _ => ⟨fun h => ?_, ?_⟩
  · split at h
    · cases h
    · rename_i rest t hs
      obtain ⟨rfl, ht⟩ := splitLast_eq_some.mp hs
      split at h
      · cases h
      · rename_i n c hf
        obtain ⟨rfl, hn⟩ := splitFirst_eq_some.mp hf
        exact ⟨n, c, t, rfl, hn, ht, tagChecked_ok.mp h⟩
  · rintro ⟨n, c, t, rfl, hn, ht, h⟩
    simp only [splitLast_append _ _ _ ht, splitFirst_append _ _ _ hn]
    exact tagChecked_ok.mpr h

/-- seal then unseal, for every scheme with the laws: the nonce-carrying payload `n0 ‖ m` comes back as `m` -/
theorem local_roundtrip (S : LocalScheme) (L : LocalLaws S) (hdr : List Bytes) (k n0 m f a : Bytes)
    (hn : n0.length = S.nonceLen) (ha : S.hasAad = true ∨ a = []) :
    ∃ tok, sealLocal S hdr k (n0 ++ m) f a = .ok tok ∧ unsealLocal S hdr k tok f a = .ok m :=
  ⟨_, (sealLocal_append S hdr k n0 m f a hn).trans (if_pos ha), (unsealLocal_ok_iff ..).mpr
    ⟨ha, _, _, _, rfl, L.synth_len _ _ hn, L.tag_len .., rfl, (L.dec_enc ..).symm⟩⟩

/-- `unseal` never panics and fails only with the three expected error kinds -/
theorem unsealLocal_total (S : LocalScheme) (hdr : List Bytes) (k payload f a : Bytes) :
    (∃ m, unsealLocal S hdr k payload f a = .ok m) ∨
    unsealLocal S hdr k payload f a = .err .claims ∨
    unsealLocal S hdr k payload f a = .err .invalidToken ∨
    unsealLocal S hdr k payload f a = .err .crypto := by
  unfold unsealLocal
  repeat' split
  all_goals simp

end PM
