import PasetoModel.Rng
/-! The random source as a *byte stream with failure points* — what the scripted source of the harness is: how the
    library chunks its requests is not part of the tie (DESIGN §12.4).  `Src` answers whole requests; `flat` forgets the
    request boundaries.  The lemmas show that the request-level model (`draw`) and the stream-level one (`takeS`) agree
    on every well-formed script, and that at stream level only the *bytes* matter, not how requests are cut. -/
namespace PM

/-- one element of the flattened source: a byte, or a failure point -/
abbrev SByte := Option UInt8

/-- forget request boundaries: an answer of `k` bytes is `k` stream bytes, a failing answer is one failure point -/
def flat : Src → List SByte
  | [] => []
  | some b :: rest => b.map some ++ flat rest
  | none :: rest => none :: flat rest

/-- serve a request of `n` bytes from the stream; reaching a failure point (or the end) fails the request -/
def takeS : Nat → List SByte → Res (Bytes × List SByte)
  | 0, s => .ok ([], s)
  | _ + 1, [] => .err .crypto
  | _ + 1, none :: _ => .err .crypto
  | n + 1, some x :: s => (takeS n s).map (fun (b, r) => (x :: b, r))

/-- a draw succeeds exactly on a script whose next answer has the requested length -/
theorem draw_eq_ok {n : Nat} {s s' : Src} {b : Bytes} :
    draw n s = .ok (b, s') ↔ s = some b :: s' ∧ b.length = n := by
  unfold draw
  split
  · split <;> simp_all [eq_comm]
  · simp
  · simp

theorem takeS_prefix (b : Bytes) (t : List SByte) : takeS b.length (b.map some ++ t) = .ok (b, t) := by
  induction b with
  | nil => rfl
  | cons x xs ih => simp [takeS, ih, Res.map, Res.bind]

/-- **chunking independence**: one request of `m + n` bytes gives exactly what a request of `m` followed by a request
    of `n` gives (bytes, remaining stream, and failure) -/
theorem takeS_add (m n : Nat) (s : List SByte) :
    takeS (m + n) s = (takeS m s).bind (fun (x, s') => (takeS n s').map (fun (y, s'') => (x ++ y, s''))) := by
  induction m generalizing s with
  | zero =>
    simp only [Nat.zero_add, takeS, Res.bind]
    cases takeS n s <;> rfl
  | succ m ih =>
    rw [Nat.succ_add]
    rcases s with _ | ⟨_ | x, t⟩
    · rfl
    · rfl
    · simp only [takeS, ih t]
      rcases takeS m t with ⟨b, s'⟩ | _ | _
      · dsimp only [Res.bind, Res.map]
        cases takeS n s' <;> rfl
      · rfl
      · rfl

/-- the request-level model refines the stream-level one: a successful `draw` is the same bytes taken from the stream -/
theorem draw_refines_stream (n : Nat) (s s' : Src) (b : Bytes) (h : draw n s = .ok (b, s')) :
    takeS n (flat s) = .ok (b, flat s') := by
  obtain ⟨rfl, rfl⟩ := draw_eq_ok.mp h
  exact takeS_prefix b (flat s')

/-- a failing answer fails the request at both levels -/
theorem stream_fail (n : Nat) (rest : Src) : takeS (n + 1) (flat (none :: rest)) = .err .crypto := rfl

end PM
