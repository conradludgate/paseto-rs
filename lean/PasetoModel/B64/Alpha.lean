import PasetoModel.B64.Block
/-! Alphabet facts: `encode` outputs alphabet characters only; the separators and padding of other base64 flavours are
    not among them. -/
namespace PM.B64

theorem enc6_mem (x : I16) (h : x.toNat < 64) : enc6 x ∈ alphabet := by
  have := enc6_table ⟨x.toNat, h⟩
  simp only [v, BitVec.ofNat_toNat, BitVec.setWidth_eq] at this
  exact List.mem_of_getElem? this

theorem enc3_mem (a c d : UInt8) :
    (enc3 a c d).1 ∈ alphabet ∧ (enc3 a c d).2.1 ∈ alphabet ∧ (enc3 a c d).2.2.1 ∈ alphabet ∧
      (enc3 a c d).2.2.2 ∈ alphabet := by
  obtain ⟨l0, l1, l2, l3⟩ := sextets_lt a c d
  exact ⟨enc6_mem _ l0, enc6_mem _ l1, enc6_mem _ l2, enc6_mem _ l3⟩

/-- everything `encode` outputs is in the alphabet -/
theorem encode_mem (bs : Bytes) : ∀ ch ∈ encode bs, ch ∈ alphabet := by
  fun_induction encode bs with
  | case1 a b c rest w x y z h ih =>
    obtain ⟨m0, m1, m2, m3⟩ := h ▸ enc3_mem a b c
    simp only [List.forall_mem_cons]
    exact ⟨m0, m1, m2, m3, ih⟩
  | case2 a b w x y z h =>
    obtain ⟨m0, m1, m2, -⟩ := h ▸ enc3_mem a b 0
    simp only [List.forall_mem_cons]
    exact ⟨m0, m1, m2, nofun⟩
  | case3 a w x y z h =>
    obtain ⟨m0, m1, -⟩ := h ▸ enc3_mem a 0 0
    simp only [List.forall_mem_cons]
    exact ⟨m0, m1, nofun⟩
  | case4 => nofun

theorem dot_not_alpha : (46 : UInt8) ∉ alphabet := by decide
theorem eq_not_alpha : (61 : UInt8) ∉ alphabet := by decide
theorem plus_not_alpha : (43 : UInt8) ∉ alphabet := by decide
theorem slash_not_alpha : (47 : UInt8) ∉ alphabet := by decide
theorem space_not_alpha : (32 : UInt8) ∉ alphabet := by decide

end PM.B64
