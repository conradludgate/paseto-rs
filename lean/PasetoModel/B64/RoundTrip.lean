import PasetoModel.B64.Block
/-! # Strings: `decodeVec s = some bs ↔ encode bs = s` -/
namespace PM.B64

/-- induction over a string in 4-character chunks -/
theorem chunks4_induction {motive : Bytes → Prop} (short : ∀ s, s.length < 4 → motive s)
    (step : ∀ s0 s1 s2 s3 rest, motive rest → motive (s0 :: s1 :: s2 :: s3 :: rest)) : ∀ s, motive s
  | s0 :: s1 :: s2 :: s3 :: rest => step _ _ _ _ _ (chunks4_induction short step rest)
  | [] | [_] | [_, _] | [_, _, _] => short _ (by simp)

theorem decChunks_short (s : Bytes) (h : s.length < 4) : decChunks s = ([], 0, s) := by
  match s, h with
  | [], _ | [_], _ | [_, _], _ | [_, _, _], _ => rfl

theorem encode_length (bs : Bytes) : (encode bs).length = (4 * bs.length + 2) / 3 := by
  fun_induction encode bs with
  | case1 a b c rest w x y z h ih => simp only [List.length_cons, ih]; omega
  | case2 => simp
  | case3 => simp
  | case4 => simp

theorem decodedLen_encode (bs : Bytes) : decodedLen (encode bs).length = bs.length := by
  rw [encode_length]; simp only [decodedLen]; omega

/-- the chunk loop succeeds with output `out` and remainder `rem` exactly when the string is the
    encoding of `out` (whole blocks) followed by `rem` (fewer than 4 characters) -/
theorem decChunks_eq_iff (s out rem : Bytes) :
    decChunks s = (out, 0, rem) ↔ out.length % 3 = 0 ∧ rem.length < 4 ∧ s = encode out ++ rem := by
  induction s using chunks4_induction generalizing out with
  | short s hs =>
    rw [decChunks_short s hs]
    match out with
    | [] => exact ⟨fun h => by cases h; exact ⟨rfl, hs, rfl⟩, fun h => by rw [h.2.2]; rfl⟩
    | [_] | [_, _] => simp
    | a :: b :: c :: out =>
      refine ⟨fun h => by simp at h, fun h => ?_⟩
      rw [h.2.2, List.length_append, encode_length] at hs; simp at hs; omega
  | step s0 s1 s2 s3 rest ih =>
    match out with
    | [] =>
      refine ⟨fun h => by simp [decChunks] at h, fun h => ?_⟩
      have := congrArg List.length h.2.2; simp [encode] at this; omega
    | [_] | [_, _] => simp [decChunks]
    | a :: c :: d :: out =>
      have hb := dec3_eq_iff s0 s1 s2 s3 a c d
      have hi := ih out
      simp only [Prod.ext_iff] at hb hi
      simp only [decChunks, encode, Prod.mk.injEq, List.cons.injEq, List.cons_append, List.length_cons]
      constructor
      · rintro ⟨⟨a1, a2, a3, o⟩, e, r⟩
        obtain ⟨e1, e2⟩ := BitVec.or_eq_zero_iff.mp e
        obtain ⟨l, hr, hs⟩ := hi.mp ⟨o, e2, r⟩
        obtain ⟨q0, q1, q2, q3⟩ := hb.mp ⟨⟨a1, a2, a3⟩, e1⟩
        exact ⟨by omega, hr, q0.symm, q1.symm, q2.symm, q3.symm, hs⟩
      · rintro ⟨l, hr, q0, q1, q2, q3, hs⟩
        obtain ⟨o, e2, r⟩ := hi.mpr ⟨by omega, hr, hs⟩
        obtain ⟨⟨a1, a2, a3⟩, e1⟩ := hb.mpr ⟨q0.symm, q1.symm, q2.symm, q3.symm⟩
        exact ⟨⟨a1, a2, a3, o⟩, BitVec.or_eq_zero_iff.mpr ⟨e1, e2⟩, r⟩

theorem decChunks_lens (s : Bytes) :
    (decChunks s).1.length = 3 * (s.length / 4) ∧ (decChunks s).2.2.length = s.length % 4 ∧
      (decChunks s).2.2.length < 4 := by
  induction s using chunks4_induction with
  | short s hs => rw [decChunks_short s hs]; simp; omega
  | step s0 s1 s2 s3 rest ih =>
    simp only [decChunks, List.length_cons]
    exact ⟨by omega, ih.2.1.trans (by omega), ih.2.2⟩

theorem encode_append (pre t : Bytes) (h : pre.length % 3 = 0) : encode (pre ++ t) = encode pre ++ encode t := by
  match pre with
  | [] => rfl
  | [_] | [_, _] => simp at h
  | a :: b :: c :: pre =>
    have := encode_append pre t (by simp at h; omega)
    simp [encode, this]

theorem exists_split3 (bs : Bytes) : ∃ pre t, bs = pre ++ t ∧ pre.length % 3 = 0 ∧ t.length < 3 :=
  ⟨bs.take (bs.length / 3 * 3), bs.drop (bs.length / 3 * 3), (List.take_append_drop ..).symm,
    by rw [List.length_take]; omega, by rw [List.length_drop]; omega⟩

/-- whole blocks in front of both strings do not move the last blocks -/
theorem validate_append (p r out t : Bytes) (hp : p.length % 4 = 0) (ho : out.length % 3 = 0)
    (hr : r ≠ []) (ht : t ≠ []) :
    validateLastBlock (p ++ r) (out ++ t) = validateLastBlock r t := by
  have hr' := List.length_pos_iff.mpr hr; have ht' := List.length_pos_iff.mpr ht
  have e4 : lastBlockStart (p ++ r).length 4 = p.length + lastBlockStart r.length 4 := by
    simp only [lastBlockStart, List.length_append]; omega
  have e3 : lastBlockStart (out ++ t).length 3 = out.length + lastBlockStart t.length 3 := by
    simp only [lastBlockStart, List.length_append]; omega
  simp only [validateLastBlock, e4, e3, List.drop_length_add_append]
  simp [hr, ht]

theorem zipEq_iff {x y : Bytes} (hl : x.length = y.length) : zipEq x y = true ↔ x = y := by
  induction x generalizing y with
  | nil => cases y <;> simp_all [zipEq]
  | cons a x ih =>
    cases y with
    | nil => simp at hl
    | cons b y => simp [zipEq, ih (Nat.succ.inj hl)]

theorem encLast_eq (t : Bytes) (ht : t.length ≤ 3) : encLast t = encode t := by
  match t, ht with
  | [], _ | [_], _ | [_, _], _ | [_, _, _], _ => rfl

/-- strings of at most one block are their own last blocks, and there `encode_last` is `encode` -/
theorem validate_last (r t : Bytes) (hr : r.length ≤ 4) (ht : t.length ≤ 3) (h : t ≠ []) :
    validateLastBlock r t = zipEq (encode t) r := by
  have e4 : lastBlockStart r.length 4 = 0 := by simp only [lastBlockStart]; omega
  have e3 : lastBlockStart t.length 3 = 0 := by simp only [lastBlockStart]; omega
  simp [validateLastBlock, e4, e3, encLast_eq t ht, h]

theorem validate_encode (bs : Bytes) : validateLastBlock (encode bs) bs = true := by
  fun_induction encode bs with
  | case1 a b c rest w x y z h ih =>
    by_cases hr : rest = []
    · subst hr; rw [validate_last _ _ (by simp [encode]) (by simp) (by simp)]; simp [encode, h, zipEq]
    · have hne : encode rest ≠ [] := fun e => hr (by
        have := congrArg List.length e; rw [encode_length] at this
        exact List.eq_nil_of_length_eq_zero (by simp at this; omega))
      rw [← ih]
      exact validate_append [w, x, y, z] (encode rest) [a, b, c] rest (by simp) (by simp) hne hr
  | case2 a b w x y z h => rw [validate_last _ _ (by simp) (by simp) (by simp)]; simp [encode, h, zipEq]
  | case3 a w x y z h => rw [validate_last _ _ (by simp) (by simp) (by simp)]; simp [encode, h, zipEq]
  | case4 => rfl

theorem decode_encode (bs : Bytes) : decodeVec (encode bs) = some bs := by
  obtain ⟨pre, t, rfl, hp, ht⟩ := exists_split3 bs
  have hv := validate_encode (pre ++ t)
  have hd : decChunks (encode (pre ++ t)) = (pre, 0, encode t) :=
    (decChunks_eq_iff ..).mpr ⟨hp, by rw [encode_length]; omega, encode_append pre t hp⟩
  unfold decodeVec
  rw [hd]
  -- the final partial block, padded with `A` = `enc6 0`, is the encoding of the padded bytes
  match t, ht with
  | [], _ =>
    have := (dec3_eq_iff A A A A 0 0 0).mpr rfl
    simp [encode, List.replicate, this] at hv ⊢; exact hv
  | [a], _ =>
    have := (dec3_eq_iff (enc3 a 0 0).1 (enc3 a 0 0).2.1 A A a 0 0).mpr rfl
    simp [encode, List.replicate, this, hv]
  | [a, c], _ =>
    have := (dec3_eq_iff (enc3 a c 0).1 (enc3 a c 0).2.1 (enc3 a c 0).2.2.1 A a c 0).mpr rfl
    simp [encode, this, hv]

#print axioms decode_encode

theorem pad4 (rem : Bytes) (h : rem.length < 4) :
    ∃ t0 t1 t2 t3, rem ++ List.replicate (4 - rem.length) A = [t0, t1, t2, t3] := by
  match rem, h with
  | [], _ | [_], _ | [_, _], _ | [_, _, _], _ => exact ⟨_, _, _, _, rfl⟩

theorem encode_decode (s bs : Bytes) (h : decodeVec s = some bs) : encode bs = s := by
  unfold decodeVec at h
  rcases hdc : decChunks s with ⟨out, e, rem⟩
  have hlt : rem.length < 4 := by simpa [hdc] using (decChunks_lens s).2.2
  obtain ⟨t0, t1, t2, t3, hp⟩ := pad4 rem hlt
  simp only [hdc, hp, Option.ite_none_right_eq_some, Option.some.injEq] at h
  obtain ⟨he, hv, rfl⟩ := h
  obtain ⟨he, -⟩ := BitVec.or_eq_zero_iff.mp he
  obtain ⟨rfl, hl⟩ := BitVec.or_eq_zero_iff.mp he
  obtain ⟨ho, -, rfl⟩ := (decChunks_eq_iff ..).mp hdc
  generalize ht : List.take (rem.length * 3 / 4) [_, _, _] = t at hv ⊢
  have hlen : t.length = min (rem.length * 3 / 4) 3 := by rw [← ht, List.length_take]; rfl
  rw [encode_append _ _ ho]; congr 1
  by_cases hr : rem = []
  · subst hr; subst ht; rfl
  · -- the last blocks are `rem` and the tail bytes `t`; validation says `t` encodes to `rem`
    have hl2 : 2 ≤ rem.length := Decidable.by_contra fun h2 => by simp [hr, h2] at hl
    have hne : t ≠ [] := fun e => by rw [e] at hlen; simp at hlen; omega
    rw [validate_append _ _ _ _ (by rw [encode_length]; omega) ho hr hne,
      validate_last _ _ (by omega) (by omega) hne] at hv
    exact (zipEq_iff (by rw [encode_length]; omega)).mp hv

#print axioms encode_decode

/-- the accepted strings are exactly the encodings -/
theorem decodeVec_eq_some_iff (s bs : Bytes) : decodeVec s = some bs ↔ encode bs = s :=
  ⟨encode_decode s bs, fun h => h ▸ decode_encode bs⟩
end PM.B64
