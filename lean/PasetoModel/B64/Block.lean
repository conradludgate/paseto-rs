import PasetoModel.Base64
namespace PM.B64
def b (n : Nat) : UInt8 := UInt8.ofNat n
def v (n : Nat) : I16 := BitVec.ofNat 16 n

/-! # The 4-character block
`enc6` is the alphabet lookup and `dec6` its inverse (two tables); between them `enc3` / `dec3` only regroup
24 bits, which is arithmetic. -/

/-- the URL-safe base64 alphabet, `A–Z a–z 0–9 - _` -/
def alphabet : List UInt8 :=
  [65,66,67,68,69,70,71,72,73,74,75,76,77,78,79,80,81,82,83,84,85,86,87,88,89,90,
   97,98,99,100,101,102,103,104,105,106,107,108,109,110,111,112,113,114,115,116,117,118,119,120,121,122,
   48,49,50,51,52,53,54,55,56,57,45,95]

/-- specification of `decode_6bits`: index in the alphabet, or -1 -/
def specDec6 (c : UInt8) : I16 :=
  match alphabet.idxOf? c with
  | some i => BitVec.ofNat 16 i
  | none => -1

theorem alphabet_length : alphabet.length = 64 := by decide

theorem enc6_table : ∀ x : Fin 64, alphabet[x.val]? = some (enc6 (v x.val)) := by decide +kernel
theorem dec6_table : ∀ x : Fin 256, dec6 (b x.val) = specDec6 (b x.val) := by decide +kernel

theorem dec6_eq_spec (c : UInt8) : dec6 c = specDec6 c := by
  simpa [b] using dec6_table ⟨c.toNat, c.toNat_lt⟩

theorem dec6_enc6 (x : I16) (h : x.toNat < 64) : dec6 (enc6 x) = x := by
  have t : ∀ n : Fin 64, dec6 (enc6 (v n.val)) = v n.val := by decide +kernel
  simpa [v] using t ⟨x.toNat, h⟩

/-- `dec6` leaves bit 8 clear only on alphabet characters, and there it inverts `enc6`
    (on all other bytes it is −1) -/
theorem enc6_dec6 (c : UInt8) (h : (dec6 c).getLsbD 8 = false) : (dec6 c).toNat < 64 ∧ enc6 (dec6 c) = c := by
  rw [dec6_eq_spec] at h ⊢
  unfold specDec6 at h ⊢
  cases hi : alphabet.idxOf? c with
  | none => rw [hi] at h; simp at h
  | some i =>
    obtain ⟨hl, hg, -⟩ := List.idxOf?_eq_some_iff.mp hi
    have hl' : i < 64 := hl
    have := enc6_table ⟨i, hl'⟩
    simp only [v, List.getElem?_eq_getElem hl, hg, Option.some.injEq] at this
    simp only [BitVec.toNat_ofNat]
    exact ⟨by omega, this.symm⟩

/-! shifts, masks and casts of the source as arithmetic on `toNat` -/
theorem i16_toNat (a : UInt8) : (i16 a).toNat = a.toNat := by simp [i16]
theorem u8_toNat (x : I16) : (u8 x).toNat = x.toNat % 256 := by simp [u8]

theorem toNat_shr (x : I16) (k : Nat) : (x >>> k).toNat = x.toNat / 2 ^ k := by
  rw [BitVec.toNat_ushiftRight, Nat.shiftRight_eq_div_pow]

theorem toNat_and63 (x : I16) : (x &&& 63).toNat = x.toNat % 64 := by
  rw [BitVec.toNat_and]; exact Nat.and_two_pow_sub_one_eq_mod _ 6

/-- `x <<< k ||| y` is `x * 2^k + y` when `y` fits below bit `k` and nothing is shifted out -/
theorem toNat_shl_or (x y : I16) (k : Nat) (hy : y.toNat < 2 ^ k) (hx : x.toNat * 2 ^ k < 2 ^ 16) :
    (x <<< k ||| y).toNat = x.toNat * 2 ^ k + y.toNat := by
  rw [BitVec.toNat_or, BitVec.toNat_shiftLeft, Nat.shiftLeft_eq, Nat.mod_eq_of_lt hx,
    ← Nat.shiftLeft_eq, ← Nat.shiftLeft_add_eq_or_of_lt hy]

/-- on a non-negative value the arithmetic shift of the source is a division -/
theorem toNat_sar (x : I16) (k : Nat) (h : x.toNat < 2 ^ 15) : (sar x k).toNat = x.toNat / 2 ^ k := by
  rw [sar, BitVec.toNat_sshiftRight_of_msb_false, Nat.shiftRight_eq_div_pow]
  rw [BitVec.msb_eq_decide]; simp; omega

/-- the error flag of `dec3` is bit 8 of the OR of the four sextets -/
theorem err_bit (t : I16) : (sar t 8 &&& 1) = 0 ↔ t.getLsbD 8 = false := by
  show t.sshiftRight 8 &&& 1#16 = 0 ↔ _
  rw [BitVec.and_one_eq_setWidth_ofBool_getLsbD, BitVec.getLsbD_sshiftRight]
  cases t.getLsbD 8 <;> simp

/-- the four sextets `enc3` hands to `enc6`, as numbers -/
theorem sextets_toNat (a c d : UInt8) :
    (i16 a >>> 2).toNat = a.toNat / 4 ∧
    (((i16 a <<< 4) ||| (i16 c >>> 4)) &&& 63).toNat = a.toNat % 4 * 16 + c.toNat / 16 ∧
    (((i16 c <<< 2) ||| (i16 d >>> 6)) &&& 63).toNat = c.toNat % 16 * 4 + d.toNat / 64 ∧
    (i16 d &&& 63).toNat = d.toNat % 64 := by
  have ha := a.toNat_lt; have hc := c.toNat_lt; have hd := d.toNat_lt
  refine ⟨by rw [toNat_shr, i16_toNat], ?_, ?_, by rw [toNat_and63, i16_toNat]⟩ <;>
  · rw [toNat_and63, toNat_shl_or, toNat_shr, i16_toNat, i16_toNat]
    · omega
    · rw [toNat_shr, i16_toNat]; omega
    · rw [i16_toNat]; omega

theorem sextets_lt (a c d : UInt8) :
    (i16 a >>> 2).toNat < 64 ∧ (((i16 a <<< 4) ||| (i16 c >>> 4)) &&& 63).toNat < 64 ∧
    (((i16 c <<< 2) ||| (i16 d >>> 6)) &&& 63).toNat < 64 ∧ (i16 d &&& 63).toNat < 64 := by
  obtain ⟨t0, t1, t2, t3⟩ := sextets_toNat a c d
  have ha := a.toNat_lt; have hc := c.toNat_lt; have hd := d.toNat_lt
  omega

/-- the three bytes `dec3` assembles from four sextets, as numbers -/
theorem octets_toNat (w x y z : I16) (hw : w.toNat < 64) (hx : x.toNat < 64) (hy : y.toNat < 64)
    (hz : z.toNat < 64) :
    (u8 ((w <<< 2) ||| sar x 4)).toNat = w.toNat * 4 + x.toNat / 16 ∧
    (u8 ((x <<< 4) ||| sar y 2)).toNat = x.toNat % 16 * 16 + y.toNat / 4 ∧
    (u8 ((y <<< 6) ||| z)).toNat = y.toNat % 4 * 64 + z.toNat := by
  refine ⟨?_, ?_, by rw [u8_toNat, toNat_shl_or] <;> omega⟩ <;>
  · rw [u8_toNat, toNat_shl_or, toNat_sar]
    · omega
    · omega
    · rw [toNat_sar]; omega; omega
    · omega

/-- three bytes and four sextets are the same 24 bits -/
theorem bytes_sextets (a c d w x y z : Nat) (hc : c < 256) (hd : d < 256)
    (hx : x < 64) (hy : y < 64) (hz : z < 64) :
    (w * 4 + x / 16 = a ∧ x % 16 * 16 + y / 4 = c ∧ y % 4 * 64 + z = d) ↔
    (a / 4 = w ∧ a % 4 * 16 + c / 16 = x ∧ c % 16 * 4 + d / 64 = y ∧ d % 64 = z) := by
  omega

/-- the same for the expressions of the source: `dec3` assembles `a c d` from four sextets exactly when
    `enc3` cuts `a c d` into these -/
theorem octets_eq_iff (w x y z : I16) (a c d : UInt8) (hw : w.toNat < 64) (hx : x.toNat < 64)
    (hy : y.toNat < 64) (hz : z.toNat < 64) :
    (u8 ((w <<< 2) ||| sar x 4) = a ∧ u8 ((x <<< 4) ||| sar y 2) = c ∧ u8 ((y <<< 6) ||| z) = d) ↔
    (i16 a >>> 2 = w ∧ ((i16 a <<< 4) ||| (i16 c >>> 4)) &&& 63 = x ∧
      ((i16 c <<< 2) ||| (i16 d >>> 6)) &&& 63 = y ∧ i16 d &&& 63 = z) := by
  obtain ⟨o0, o1, o2⟩ := octets_toNat w x y z hw hx hy hz
  obtain ⟨t0, t1, t2, t3⟩ := sextets_toNat a c d
  simp only [← UInt8.toNat_inj, ← BitVec.toNat_inj, o0, o1, o2, t0, t1, t2, t3]
  exact bytes_sextets _ _ _ _ _ _ _ c.toNat_lt d.toNat_lt hx hy hz

theorem bit8_of_lt (x : I16) (h : x.toNat < 64) : x.getLsbD 8 = false :=
  Nat.testBit_lt_two_pow (by omega)

/-- a 4-character block decodes without error to three bytes exactly when it is their encoding -/
theorem dec3_eq_iff (s0 s1 s2 s3 a c d : UInt8) :
    dec3 s0 s1 s2 s3 = ((a, c, d), 0) ↔ enc3 a c d = (s0, s1, s2, s3) := by
  simp only [dec3, enc3, Prod.mk.injEq, err_bit, BitVec.getLsbD_or, Bool.or_eq_false_iff, and_assoc]
  constructor
  · rintro ⟨ea, ec, ed, b0, b1, b2, b3⟩
    obtain ⟨l0, q0⟩ := enc6_dec6 s0 b0; obtain ⟨l1, q1⟩ := enc6_dec6 s1 b1
    obtain ⟨l2, q2⟩ := enc6_dec6 s2 b2; obtain ⟨l3, q3⟩ := enc6_dec6 s3 b3
    obtain ⟨r0, r1, r2, r3⟩ := (octets_eq_iff _ _ _ _ a c d l0 l1 l2 l3).mp ⟨ea, ec, ed⟩
    rw [r0, r1, r2, r3]
    exact ⟨q0, q1, q2, q3⟩
  · rintro ⟨rfl, rfl, rfl, rfl⟩
    obtain ⟨l0, l1, l2, l3⟩ := sextets_lt a c d
    rw [dec6_enc6 _ l0, dec6_enc6 _ l1, dec6_enc6 _ l2, dec6_enc6 _ l3]
    obtain ⟨e0, e1, e2⟩ := (octets_eq_iff _ _ _ _ a c d l0 l1 l2 l3).mpr ⟨rfl, rfl, rfl, rfl⟩
    exact ⟨e0, e1, e2, bit8_of_lt _ l0, bit8_of_lt _ l1, bit8_of_lt _ l2, bit8_of_lt _ l3⟩

end PM.B64
