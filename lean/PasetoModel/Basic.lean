/-! Common vocabulary of the model: bytes, results with explicit panic sites, slice helpers.
    Import-free (core only) so that the driver links as a native executable. -/
namespace PM

abbrev Bytes := List UInt8

/-- `PasetoError` variants (payload error carries no data in the model). -/
inductive Err | base64 | invalidKey | invalidToken | crypto | claims | payload
  deriving DecidableEq, Repr, Inhabited

/-- Result of a modelled Rust function: `Ok`, `Err(PasetoError)`, or a panic at a named site. -/
inductive Res (α : Type) | ok (a : α) | err (e : Err) | panic (site : String)
  deriving Repr, DecidableEq

namespace Res
@[inline] def bind {α β} (r : Res α) (f : α → Res β) : Res β :=
  match r with | .ok a => f a | .err e => .err e | .panic s => .panic s
@[inline] def map {α β} (f : α → β) (r : Res α) : Res β := r.bind (fun a => .ok (f a))
def isOk {α} : Res α → Bool | .ok _ => true | _ => false
def isPanic {α} : Res α → Bool | .panic _ => true | _ => false
instance : Monad Res where
  pure := .ok
  bind := Res.bind
end Res

/-- `Option::ok_or(e)?` -/
@[inline] def okOr {α} (o : Option α) (e : Err) : Res α :=
  match o with | some a => .ok a | none => .err e

def xor : Bytes → Bytes → Bytes
  | a :: as, b :: bs => (a ^^^ b) :: xor as bs
  | _, _ => []

/-- `split_last_chunk::<n>` / `split_at(len - n)` guarded by `len >= n` -/
def splitLast (n : Nat) (l : Bytes) : Option (Bytes × Bytes) :=
  if l.length < n then none else some (l.take (l.length - n), l.drop (l.length - n))
/-- `split_first_chunk::<n>` -/
def splitFirst (n : Nat) (l : Bytes) : Option (Bytes × Bytes) :=
  if l.length < n then none else some (l.take n, l.drop n)

/-- `strip_prefix` on byte strings -/
def stripPrefix (p s : Bytes) : Option Bytes :=
  if p.isPrefixOf s then some (s.drop p.length) else none

def le64 (n : Nat) : Bytes :=
  [UInt8.ofNat n, UInt8.ofNat (n / 2^8), UInt8.ofNat (n / 2^16), UInt8.ofNat (n / 2^24),
   UInt8.ofNat (n / 2^32), UInt8.ofNat (n / 2^40), UInt8.ofNat (n / 2^48), UInt8.ofNat (n / 2^56)]

def fromLe64 : Bytes → Nat
  | [b0,b1,b2,b3,b4,b5,b6,b7] => b0.toNat + 2^8 * b1.toNat + 2^16 * b2.toNat + 2^24 * b3.toNat
      + 2^32 * b4.toNat + 2^40 * b5.toNat + 2^48 * b6.toNat + 2^56 * b7.toNat
  | _ => 0

def be32 (n : Nat) : Bytes :=
  [UInt8.ofNat (n / 2^24), UInt8.ofNat (n / 2^16), UInt8.ofNat (n / 2^8), UInt8.ofNat n]
def be64 (n : Nat) : Bytes := be32 (n / 2^32) ++ be32 n
def fromBe : Bytes → Nat := List.foldl (fun acc b => acc * 256 + b.toNat) 0

/-- big-endian, exactly `n` bytes (high part truncated) -/
def natToBe : Nat → Nat → Bytes
  | 0, _ => []
  | n + 1, x => UInt8.ofNat (x / 256 ^ n) :: natToBe n x

/-- minimal big-endian bytes (`BigUint::to_bytes_be`: zero ↦ [0]) -/
def natToBeMin (x : Nat) : Bytes :=
  if x = 0 then [0] else
  let rec len (fuel y acc : Nat) : Nat := match fuel with
    | 0 => acc
    | f+1 => if y = 0 then acc else len f (y / 256) (acc + 1)
  natToBe (len (Nat.log2 x + 1) x 0) x

def str (s : String) : Bytes := s.toUTF8.toList

/-- full-length comparison of tags (model of the constant-time comparisons) -/
def tagEq (a b : Bytes) : Bool := a == b

theorem xor_length (a b : Bytes) (h : a.length = b.length) : (xor a b).length = a.length := by
  induction a generalizing b with
  | nil => simp [xor]
  | cons x xs ih => cases b with
    | nil => simp at h
    | cons y ys => simp [xor, ih ys (by simpa using h)]

theorem xor_xor (a b : Bytes) (h : a.length = b.length) : xor (xor a b) b = a := by
  induction a generalizing b with
  | nil => simp [xor]
  | cons x xs ih => cases b with
    | nil => simp at h
    | cons y ys => simp [xor, ih ys (by simpa using h), UInt8.xor_assoc]

theorem xor_keystream_length {s : Nat → Bytes} (hs : ∀ n, (s n).length = n) (m : Bytes) :
    (xor m (s m.length)).length = m.length := xor_length _ _ (hs _).symm

/-- every cipher of the model is `fun m => xor m (s m.length)` for a keystream `s` of the requested length,
    hence its own inverse -/
theorem xor_keystream_twice {s : Nat → Bytes} (hs : ∀ n, (s n).length = n) (m : Bytes) :
    xor (xor m (s m.length)) (s (xor m (s m.length)).length) = m := by
  rw [xor_keystream_length hs]; exact xor_xor _ _ (hs _).symm

theorem splitFirst_eq_some {n : Nat} {l x y : Bytes} :
    splitFirst n l = some (x, y) ↔ l = x ++ y ∧ x.length = n := by
  unfold splitFirst
  constructor
  · split
    · simp
    · rintro ⟨⟩
      exact ⟨(List.take_append_drop n l).symm, List.length_take_of_le (by omega)⟩
  · rintro ⟨rfl, rfl⟩; simp

theorem splitLast_eq_some {n : Nat} {l x t : Bytes} :
    splitLast n l = some (x, t) ↔ l = x ++ t ∧ t.length = n := by
  unfold splitLast
  constructor
  · split
    · simp
    · rintro ⟨⟩
      exact ⟨(List.take_append_drop _ l).symm, by simp; omega⟩
  · rintro ⟨rfl, rfl⟩; simp

theorem splitFirst_append (n : Nat) (x y : Bytes) (h : x.length = n) :
    splitFirst n (x ++ y) = some (x, y) := splitFirst_eq_some.mpr ⟨rfl, h⟩

theorem splitLast_append (n : Nat) (x t : Bytes) (h : t.length = n) :
    splitLast n (x ++ t) = some (x, t) := splitLast_eq_some.mpr ⟨rfl, h⟩

theorem splitLast_none {n : Nat} {l : Bytes} : splitLast n l = none ↔ l.length < n := by
  simp [splitLast]
theorem splitFirst_none {n : Nat} {l : Bytes} : splitFirst n l = none ↔ l.length < n := by
  simp [splitFirst]

theorem Res.bind_eq_ok {α β} {r : Res α} {f : α → Res β} {b : β} :
    r.bind f = .ok b ↔ ∃ a, r = .ok a ∧ f a = .ok b := by
  cases r <;> simp [Res.bind]

theorem bind_ne_panic {α β : Type} {r : Res α} {f : α → Res β} (hr : ∀ x, r ≠ .panic x)
    (hf : ∀ a x, f a ≠ .panic x) : ∀ x, r.bind f ≠ .panic x := by
  cases r with
  | ok a => exact hf a
  | err e => exact nofun
  | panic s => exact absurd rfl (hr s)

theorem Res.map_eq_ok {α β} {r : Res α} {f : α → β} {b : β} :
    r.map f = .ok b ↔ ∃ a, r = .ok a ∧ f a = b := by
  cases r <;> simp [Res.map, Res.bind]

/-- an early `return Err(e)` -/
theorem guard_ok_iff {α} {c : Prop} [Decidable c] {e : Err} {r : Res α} {v : α} :
    (if c then .err e else r) = .ok v ↔ ¬ c ∧ r = .ok v := by
  by_cases h : c <;> simp [h]

/-- the last step of every unwrap / unseal: compare the tag, then release the plaintext -/
theorem tagChecked_ok {x t v r : Bytes} {e : Err} :
    (if tagEq x t then Res.ok v else .err e) = .ok r ↔ t = x ∧ r = v := by
  by_cases h : x = t <;> simp [tagEq, h, @eq_comm _ t, @eq_comm _ v]

/-- the guard every token `seal` / `unseal` starts with (versions without implicit assertions refuse a non-empty
    one), as a proposition -/
theorem aadRefused_eq_false {hasAad : Bool} {a : Bytes} :
    (!hasAad && !a.isEmpty) = false ↔ (hasAad = true ∨ a = []) := by
  cases hasAad <;> cases a <;> simp

theorem natToBe_length (n x : Nat) : (natToBe n x).length = n := by
  induction n with
  | zero => rfl
  | succ n ih => simp [natToBe, ih]

theorem foldl_natToBe (n x acc : Nat) :
    List.foldl (fun acc (b : UInt8) => acc * 256 + b.toNat) acc (natToBe n x) = acc * 256 ^ n + x % 256 ^ n := by
  induction n generalizing acc with
  | zero => simp [natToBe, Nat.mod_one]
  | succ n ih =>
    simp only [natToBe, List.foldl_cons, ih, UInt8.toNat_ofNat']
    rw [Nat.pow_succ (m := n), Nat.mod_mul (a := 256 ^ n), Nat.add_mul]
    ac_rfl

/-- fixed-width big-endian serialisation round-trips for values that fit -/
theorem fromBe_natToBe (n x : Nat) (h : x < 256 ^ n) : fromBe (natToBe n x) = x := by
  unfold fromBe
  rw [foldl_natToBe, Nat.mod_eq_of_lt h]; simp

theorem le64_length (n : Nat) : (le64 n).length = 8 := rfl

theorem fromLe64_le64 (n : Nat) (h : n < 2^64) : fromLe64 (le64 n) = n := by
  simp only [le64, fromLe64, UInt8.toNat_ofNat']
  omega

theorem tagEq_iff (a b : Bytes) : tagEq a b = true ↔ a = b := by
  simp [tagEq]

theorem stripPrefix_append (p s : Bytes) : stripPrefix p (p ++ s) = some s := by
  simp [stripPrefix]

theorem stripPrefix_some {p s r : Bytes} (h : stripPrefix p s = some r) : s = p ++ r := by
  unfold stripPrefix at h
  split at h
  · rename_i hp
    obtain ⟨t, rfl⟩ := List.isPrefixOf_iff_prefix.mp hp
    simpa [eq_comm] using h
  · cases h

end PM
