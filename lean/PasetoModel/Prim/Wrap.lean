import PasetoModel.Basic
import PasetoModel.Prim.Sha2
import PasetoModel.Prim.Aes
import PasetoModel.Prim.Blake2b
import PasetoModel.Prim.ChaCha
/-! The executable primitives (ByteArray based) presented on `Bytes`, each wrapped in `fixLen n`
    (pad / truncate to the length the primitive is specified to return).  `fixLen` is the identity
    on a correct primitive; it makes the length laws hold by construction so that the concrete
    instance satisfies the law structures without any assumption.  That the primitives compute the
    right *values* is validated by the correspondence, not proved (modelled, not verified). -/
namespace PM.W

def ba (b : Bytes) : ByteArray := ⟨b.toArray⟩
def ob (a : ByteArray) : Bytes := a.data.toList

def fixLen (n : Nat) (b : Bytes) : Bytes := (b ++ List.replicate n 0).take n

theorem fixLen_length (n : Nat) (b : Bytes) : (fixLen n b).length = n := by
  simp [fixLen]

def sha384 (m : Bytes) : Bytes := fixLen 48 (ob (Prim.sha384 (ba m)))
def sha512 (m : Bytes) : Bytes := fixLen 64 (ob (Prim.sha512 (ba m)))
def hmac384 (k m : Bytes) : Bytes := fixLen 48 (ob (Prim.hmacSha384 (ba k) (ba m)))
/-- HKDF-SHA384; empty salt means "no salt" -/
def hkdf384 (salt ikm info : Bytes) (len : Nat) : Bytes :=
  fixLen len (ob (Prim.hkdfSha384 (ba salt) (ba ikm) (ba info) len))
def pbkdf2_384 (pw salt : Bytes) (iters len : Nat) : Bytes :=
  fixLen len (ob (Prim.pbkdf2Sha384 (ba pw) (ba salt) iters len))
/-- AES-256-CTR keystream; `bits` = width of the big-endian counter inside the 16-byte block -/
def aesCtr (bits : Nat) (key iv : Bytes) (len : Nat) : Bytes :=
  fixLen len (ob (Prim.Aes.ctrKeystream bits (ba key) (ba iv) len))
/-- BLAKE2b, optionally keyed, `outLen` bytes -/
def blake2b (key : Bytes) (outLen : Nat) (m : Bytes) : Bytes :=
  fixLen outLen (ob (Prim.Blake2b.hash (ba key) outLen (ba m)))
def xchacha (key nonce : Bytes) (len : Nat) : Bytes :=
  fixLen len (ob (Prim.ChaCha.xchacha20Keystream (ba key) (ba nonce) len))

/-- XChaCha20-Poly1305 keystream (block counter starts at 1) -/
def xcpStream (key nonce : Bytes) (len : Nat) : Bytes :=
  fixLen len (ob (Prim.ChaCha.xchacha20poly1305Encrypt (ba key) (ba nonce) ByteArray.empty
    (Prim.zeros len)).1)

/-- XChaCha20-Poly1305 tag over (aad, ciphertext) -/
def xcpTag (key nonce aad ct : Bytes) : Bytes :=
  let sub := Prim.ChaCha.hchacha20 (ba key) ((ba nonce).extract 0 16)
  let n12 := Prim.zeros 4 ++ (ba nonce).extract 16 24
  let otk := (Prim.ChaCha.block sub 0 n12).extract 0 32
  let a := ba aad
  let c := ba ct
  let macData := a ++ Prim.ChaCha.pad16 a.size ++ c ++ Prim.ChaCha.pad16 c.size
    ++ Prim.pushLE64 ByteArray.empty (UInt64.ofNat a.size) ++ Prim.pushLE64 ByteArray.empty (UInt64.ofNat c.size)
  fixLen 16 (ob (Prim.ChaCha.poly1305 otk macData))

/-! The length each wrapper returns, by construction.  Stated once here so that no proof has to look inside a
    primitive: matching `(hmac384 k m).length = 48` against `fixLen_length` by unification makes Lean evaluate
    the executable hash on symbolic input. -/
@[simp] theorem sha384_length (m : Bytes) : (sha384 m).length = 48 := fixLen_length _ _
@[simp] theorem hmac384_length (k m : Bytes) : (hmac384 k m).length = 48 := fixLen_length _ _
@[simp] theorem aesCtr_length (bits : Nat) (k iv : Bytes) (n : Nat) : (aesCtr bits k iv n).length = n := fixLen_length _ _
@[simp] theorem blake2b_length (k : Bytes) (n : Nat) (m : Bytes) : (blake2b k n m).length = n := fixLen_length _ _
@[simp] theorem xchacha_length (k iv : Bytes) (n : Nat) : (xchacha k iv n).length = n := fixLen_length _ _
@[simp] theorem xcpStream_length (k iv : Bytes) (n : Nat) : (xcpStream k iv n).length = n := fixLen_length _ _
@[simp] theorem xcpTag_length (k n a c : Bytes) : (xcpTag k n a c).length = 16 := fixLen_length _ _

end PM.W
